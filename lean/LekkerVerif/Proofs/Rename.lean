import LekkerVerif.Proofs.Dict

/-! `renameFixed` (`Structure.update_params`) is the simultaneous substitution `simul`, in any listing order of the table.
`Flatten.midName` is the name map of a table; `simul` looks the dictionary up through it. -/

namespace Flatten

/-- the name under which the bottom parameter `x` of a structure placed with table `L` is visible one level up -/
def midName (L : Table) (x : String) : Option String :=
  match L.find? (·.2 == x) with
  | some e => some e.1
  | none => if L.any (·.1 == x) then none else some x

theorem midName_old (m : Table) (hold : (m.map (·.2)).Nodup) {n x : String} (h : (n, x) ∈ m) : midName m x = some n := by
  unfold midName
  rw [(find?_key_iff Prod.snd m hold x (n, x)).2 ⟨h, rfl⟩]

theorem midName_other (m : Table) {x : String} (h2 : x ∉ m.map (·.2)) (h1 : x ∉ m.map (·.1)) : midName m x = some x := by
  unfold midName
  rw [(find?_key_none Prod.snd m x).2 h2, if_neg (mt (any_key Prod.fst m x).1 h1)]

theorem midName_some (m : Table) {x k : String} (h : midName m x = some k) :
    (k, x) ∈ m ∨ k = x ∧ x ∉ m.map (·.2) ∧ x ∉ m.map (·.1) := by
  unfold midName at h
  split at h
  · rename_i e he
    cases h
    have : e.2 = x := by simpa using List.find?_some he
    exact Or.inl (this ▸ List.mem_of_find?_eq_some he)
  · rename_i he
    split at h
    · cases h
    · rename_i ha
      cases h
      exact Or.inr ⟨rfl, (find?_key_none Prod.snd m x).1 he, mt (any_key Prod.fst m x).2 ha⟩

theorem midName_eq_some (m : Table) (hold : (m.map (·.2)).Nodup) {x k : String} :
    midName m x = some k ↔ (k, x) ∈ m ∨ k = x ∧ x ∉ m.map (·.2) ∧ x ∉ m.map (·.1) :=
  ⟨midName_some m, by
    rintro (h | ⟨rfl, h2, h1⟩)
    · exact midName_old m hold h
    · exact midName_other m h2 h1⟩

theorem midName_inj (m : Table) (hnew : (m.map (·.1)).Nodup) {k₁ k₂ n : String}
    (h₁ : midName m k₁ = some n) (h₂ : midName m k₂ = some n) : k₁ = k₂ := by
  rcases midName_some m h₁ with h₁ | ⟨rfl, _, n₁⟩ <;> rcases midName_some m h₂ with h₂ | ⟨rfl, _, n₂⟩
  · exact congrArg Prod.snd (inj_of_nodup_map Prod.fst m hnew _ _ h₁ h₂ rfl)
  · exact absurd (List.mem_map.2 ⟨_, h₁, rfl⟩) n₂
  · exact absurd (List.mem_map.2 ⟨_, h₂, rfl⟩) n₁
  · rfl

end Flatten

theorem simul_eq {V : Type} (m : Table) (d : Dict V) (x : String) : simul m d x = (Flatten.midName m x).bind d.get? := by
  unfold simul Flatten.midName
  cases m.find? (·.2 == x) with
  | some _ => rfl
  | none => cases m.any (·.1 == x) <;> rfl

theorem adds_get? {V : Type} (m : Table) (d : Dict V) (hold : (m.map (·.2)).Nodup) (x : String) :
    (Dict.mk (m.filterMap fun no => (d.get? no.1).map fun v => (no.2, v))).get? x
      = match m.find? (·.2 == x) with
        | some no => d.get? no.1
        | none => none := by
  induction m with
  | nil => rfl
  | cons a t ih =>
    obtain ⟨ha, ht⟩ := List.nodup_cons.1 (show (a.2 :: t.map (·.2)).Nodup from hold)
    rw [List.filterMap_cons, List.find?_cons]
    by_cases hx : a.2 = x
    · subst hx
      simp only [beq_self_eq_true]
      cases d.get? a.1 with
      | none => exact (ih ht).trans (by rw [(find?_key_none Prod.snd t a.2).2 ha])
      | some v => simp [Dict.get?_cons]
    · have : (a.2 == x) = false := beq_false_of_ne hx
      simp only [this]
      rw [← ih ht]
      cases d.get? a.1 <;> simp [Dict.get?_cons, hx]

theorem renameFixed_spec {V : Type} (m : Table) (d : Dict V) (hold : (m.map (·.2)).Nodup) (x : String) :
    (renameFixed m d).get? x = simul m d x := by
  unfold renameFixed simul
  rw [Dict.get?_append, Dict.get?_filter d.kv (fun k => !(m.any fun no => no.1 == k || no.2 == k)), adds_get? m d hold x]
  cases hf : m.find? (·.2 == x) with
  | some no =>
    -- x is an old name: the base part has no key x
    have : (m.any fun no => no.1 == x || no.2 == x) = true :=
      List.any_eq_true.2 ⟨no, List.mem_of_find?_eq_some hf, by rw [List.find?_some hf, Bool.or_true]⟩
    simp [this]
  | none =>
    -- no old name is x: the base part is filtered by the new names alone
    have : (m.any fun no => no.1 == x || no.2 == x) = m.any (·.1 == x) := by
      rw [Bool.eq_iff_iff, List.any_eq_true, List.any_eq_true]
      exact exists_congr fun no => and_congr_right fun hno => by simp [List.find?_eq_none.1 hf no hno]
    rw [this]
    cases m.any (·.1 == x) <;> simp

/-- the form in which the other files use `renameFixed_spec` -/
theorem get?_renameFixed {V : Type} (m : Table) (hold : (m.map (·.2)).Nodup) (d : Dict V) (x : String) :
    (renameFixed m d).get? x = (Flatten.midName m x).bind d.get? :=
  (renameFixed_spec m d hold x).trans (simul_eq m d x)

/-- the name map of a table depends only on which pairs it holds -/
theorem renameFixed_perm {V : Type} (m m' : Table) (d : Dict V) (hp : m.Perm m') (hold : (m.map (·.2)).Nodup)
    (x : String) : (renameFixed m d).get? x = (renameFixed m' d).get? x := by
  have hold' := (hp.map _).nodup_iff.1 hold
  have : Flatten.midName m x = Flatten.midName m' x := Option.ext fun k => by
    rw [Flatten.midName_eq_some m hold, Flatten.midName_eq_some m' hold', hp.mem_iff, (hp.map _).mem_iff, (hp.map _).mem_iff]
  rw [get?_renameFixed m hold, get?_renameFixed m' hold', this]

theorem renameFixed_keys_nodup {V : Type} (m : Table) (hold : (m.map (·.2)).Nodup) (d : Dict V) (hd : d.keys.Nodup) :
    (renameFixed m d).keys.Nodup := by
  unfold renameFixed Dict.keys at *
  rw [List.map_append, List.nodup_append]
  refine ⟨(List.filter_sublist.map _).nodup hd, ?_, ?_⟩
  · -- the added keys are old names of `m`, in order
    refine (filterMap_map_sublist _ _ _ (fun no e he => ?_) m).nodup hold
    obtain ⟨v, -, rfl⟩ := Option.map_eq_some_iff.1 he
    rfl
  · -- a key that survives the filter is no old name
    rintro _ ha _ hb rfl
    obtain ⟨e1, he1, rfl⟩ := List.mem_map.1 ha
    obtain ⟨e2, he2, hk⟩ := List.mem_map.1 hb
    obtain ⟨no, hno, hv⟩ := List.mem_filterMap.1 he2
    obtain ⟨v, -, rfl⟩ := Option.map_eq_some_iff.1 hv
    have hf := (List.mem_filter.1 he1).2
    simp only [Bool.not_eq_true', List.any_eq_false, Bool.or_eq_true, beq_iff_eq, not_or] at hf
    exact (hf no hno).2 hk

/-- one level down: the child resolves what the placement hands it (the incoming dictionary `D` renamed by `m`) over its own
defaults `cd` -/
theorem level_get? {V : Type} (m : Table) (hold : (m.map (·.2)).Nodup) (D cd : Dict V) (hD : D.keys.Nodup) (x : String) :
    (solverParams cd (renameFixed m D) ⟨[]⟩).get? x = (simul m D x).or (Dict.lastOf cd.kv x) := by
  rw [solverParams_get?_nil, Dict.lastOf_eq_get?_of_nodup _ (renameFixed_keys_nodup m hold D hD), renameFixed_spec m D hold]

theorem renameFixed_nil {V : Type} (d : Dict V) : renameFixed [] d = d :=
  congrArg Dict.mk ((List.append_nil _).trans (List.filter_eq_self.2 fun _ _ => rfl))
