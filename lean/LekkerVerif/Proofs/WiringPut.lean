import LekkerVerif.Proofs.WiringDetach

/-! `put` (add the placed structure, then connect its pin to the target) on the wiring state machine:
a rejected put of a fresh object leaves nothing behind, an accepted one is exactly add-then-connect,
the acceptance condition is the three validations, and what every single call preserves a put preserves
(`put_preserves`), the invariant among them (`put_inv`). -/

namespace Wiring

theorem put_valid (w : W) (i s : Nat) (q : Pin) (o : SObj) (ho : getObj w i = some o) (hs : s ∈ o.pins)
    (hqc : q ∉ w.clist) (hqf : q ∈ w.free) (ha : (addStruct w i).2 = .ok) :
    put w i s q = connect (addStruct w i).1 (i, s) q := by
  have b1 : (!(o.pins.contains s)) = false := by simpa using hs
  have b2 : w.clist.contains q = false := by simpa using hqc
  have b3 : (!(w.free.contains q)) = false := by simpa using hqf
  unfold put
  simp only [ho, b1, b2, b3, Bool.false_eq_true, ↓reduceIte, ha]

theorem put_cases (w : W) (i s : Nat) (q : Pin) :
    ((put w i s q).1 = w ∧ (put w i s q).2 ≠ .ok) ∨
    ((addStruct w i).2 = .ok ∧ put w i s q = connect (addStruct w i).1 (i, s) q ∧
      ∃ o, getObj w i = some o ∧ s ∈ o.pins ∧ q ∉ w.clist ∧ q ∈ w.free) := by
  unfold put
  cases ho : getObj w i with
  | none => exact Or.inl ⟨rfl, Out.noConfusion⟩
  | some o =>
    dsimp only
    by_cases hs : (!(o.pins.contains s)) = true
    · rw [if_pos hs]; exact Or.inl ⟨rfl, Out.noConfusion⟩
    rw [if_neg hs]
    by_cases hqc : w.clist.contains q = true
    · rw [if_pos hqc]; exact Or.inl ⟨rfl, Out.noConfusion⟩
    rw [if_neg hqc]
    by_cases hqf : (!(w.free.contains q)) = true
    · rw [if_pos hqf]; exact Or.inl ⟨rfl, Out.noConfusion⟩
    rw [if_neg hqf]
    split
    · rename_i hok
      exact Or.inr ⟨hok, rfl, o, rfl, by simpa using hs, by simpa using hqc, by simpa using hqf⟩
    · rename_i hne
      exact Or.inl ⟨rfl, hne⟩

/-- a put changes nothing or is an add followed by a connect -/
theorem put_preserves {P : W → Prop} (hstep : ∀ w op, P w → P (step w op).1) (w : W) (h : P w) (i s : Nat) (q : Pin) :
    P (put w i s q).1 := by
  rcases put_cases w i s q with h' | ⟨_, he, _⟩
  · rw [h'.1]; exact h
  · rw [he]; exact hstep _ (.connect (i, s) q) (hstep w (.add i) h)

theorem put_inv (w : W) (inv : WInv w) (i s : Nat) (q : Pin) : WInv (put w i s q).1 :=
  put_preserves (fun w op inv => step_inv w inv op) w inv i s q

theorem put_fresh_ok (w : W) (inv : WInv w) (i s : Nat) (q : Pin) (o : SObj) (ho : getObj w i = some o)
    (hfresh : i ∉ w.structs) (hs : s ∈ o.pins) (hqc : q ∉ w.clist) (hqf : q ∈ w.free) : (put w i s q).2 = .ok := by
  have ha := addStruct_fresh w i o ho hfresh
  have hne : i ≠ q.1 := fun e => hfresh (e ▸ (inv.freeObj q hqf).1)
  rw [put_valid w i s q o ho hs hqc hqf (by rw [ha]), ha]
  exact (connect_ok _ (added_inv inv hfresh ho) (i, s) q hne (List.mem_append_right _ (List.mem_map.2 ⟨s, hs, rfl⟩))
    (List.mem_append_left _ hqf)).1

theorem put_accepts_iff (w : W) (inv : WInv w) (i s : Nat) (q : Pin) (o : SObj) (ho : getObj w i = some o)
    (hfresh : i ∉ w.structs) : (put w i s q).2 = .ok ↔ (s ∈ o.pins ∧ q ∉ w.clist ∧ q ∈ w.free) := by
  constructor
  · intro h
    rcases put_cases w i s q with h' | ⟨_, _, o', ho', hv⟩
    · exact absurd h h'.2
    · rw [ho] at ho'; cases ho'
      exact hv
  · rintro ⟨hs, hqc, hqf⟩
    exact put_fresh_ok w inv i s q o ho hfresh hs hqc hqf

theorem put_rejected_unchanged (w : W) (inv : WInv w) (i s : Nat) (q : Pin) (o : SObj) (ho : getObj w i = some o)
    (hfresh : i ∉ w.structs) (hconn : o.conn = []) (h : (put w i s q).2 ≠ .ok) : (put w i s q).1 = w := by
  rcases put_cases w i s q with h' | ⟨_, _, o', ho', hs, hqc, hqf⟩
  · exact h'.1
  · rw [ho] at ho'; cases ho'
    exact absurd (put_fresh_ok w inv i s q o ho hfresh hs hqc hqf) h

end Wiring
