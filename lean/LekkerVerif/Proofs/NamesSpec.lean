import LekkerVerif.Model.Names
import LekkerVerif.Proofs.Dict

/-! `update_pins` accepts a pin set exactly when no two pins print alike; the table then resolves every name to
the unique pin that prints so. -/

namespace Names

theorem buildTable_fold (pins : List PinN) : ∀ (t : List (String × PinN)), (t.map (·.1)).Nodup →
    pins.foldl (fun acc p => acc.bind fun t => if t.any (·.1 == p.name) then none else some (t ++ [(p.name, p)])) (some t)
      = if ((t.map (·.1)) ++ pins.map PinN.name).Nodup then some (t ++ pins.map fun p => (p.name, p)) else none := by
  induction pins with
  | nil => intro t ht; simp only [List.foldl_nil, List.map_nil, List.append_nil, if_pos ht]
  | cons p ps ih =>
    intro t ht
    rw [List.foldl_cons, Option.bind_some]
    by_cases hin : p.name ∈ t.map (·.1)
    · -- the name is taken: the fold stays `none`
      have : ¬ ((t.map (·.1)) ++ (p :: ps).map PinN.name).Nodup :=
        fun nd => (List.nodup_append.1 nd).2.2 _ hin _ List.mem_cons_self rfl
      rw [if_pos ((any_key Prod.fst t p.name).2 hin), if_neg this]
      exact List.foldlRecOn (motive := (· = none)) ps _ rfl fun _ h _ _ => by rw [h, Option.bind_none]
    · have ht' : ((t ++ [(p.name, p)]).map (·.1)).Nodup := by
        rw [List.map_append]
        exact nodup_snoc ht hin
      rw [if_neg (mt (any_key Prod.fst t p.name).1 hin), ih _ ht']
      simp only [List.map_append, List.map_cons, List.map_nil, List.append_assoc, List.singleton_append]

theorem buildTable_spec (pins : List PinN) :
    buildTable pins = if (pins.map PinN.name).Nodup then some (pins.map fun p => (p.name, p)) else none :=
  buildTable_fold pins [] List.nodup_nil

theorem buildTable_ne_none_iff (pins : List PinN) : buildTable pins ≠ none ↔ (pins.map PinN.name).Nodup := by
  rw [buildTable_spec]
  split
  · rename_i nd; exact ⟨fun _ => nd, fun _ h => nomatch h⟩
  · rename_i nd; exact ⟨fun h => absurd rfl h, fun h => absurd h nd⟩

theorem resolve_iff (pins : List PinN) (t : List (String × PinN)) (h : buildTable pins = some t) (n : String) (p : PinN) :
    resolve t n = some p ↔ (p ∈ pins ∧ p.name = n) := by
  rw [buildTable_spec] at h
  split at h
  · rename_i nd
    cases h
    have keys : ((pins.map fun p => (p.name, p)).map Prod.fst).Nodup := by rw [List.map_map]; exact nd
    unfold resolve
    rw [Option.map_eq_some_iff]
    constructor
    · rintro ⟨e, hf, rfl⟩
      obtain ⟨he, hn⟩ := (find?_key_iff Prod.fst _ keys n e).1 hf
      obtain ⟨q, hq, rfl⟩ := List.mem_map.1 he
      exact ⟨hq, hn⟩
    · rintro ⟨hp, hn⟩
      exact ⟨(p.name, p), (find?_key_iff Prod.fst _ keys n _).2 ⟨List.mem_map.2 ⟨p, hp, rfl⟩, hn⟩, rfl⟩
  · cases h

end Names
