import LekkerVerif.Model.HierParams
/-! `PNet.dictAt` (the dictionary the composed model hands to the object at the end of a path of placements) is `descend`
(Model/Params.lean: the function `C05_precedence_any_depth` is about) along the tables and defaults of that path. -/

namespace PNet
variable {F : Type}

/-- what an object does with the dictionary that reaches it: overlay on its own defaults -/
def resolve (t : PNet F) (d : Dict F) : Dict F := solverParams t.defaults d ⟨[]⟩

/-- the (table, defaults of the placed object) pairs along a path, and the object at its end -/
def pathLevels : PNet F → List Nat → Option (List (Table × Dict F) × PNet F)
  | t, [] => some ([], t)
  | .leaf .., _ :: _ => none
  | .node children _ _, i :: rest => pathLevelsList children i rest
where
  pathLevelsList : List (Table × PNet F) → Nat → List Nat → Option (List (Table × Dict F) × PNet F)
    | [], _, _ => none
    | (m, ch) :: _, 0, rest => (pathLevels ch rest).map fun r => ((m, ch.defaults) :: r.1, r.2)
    | _ :: more, i + 1, rest => pathLevelsList more i rest

theorem dictAtList_eq (d : Dict F) (rest : List Nat) (children : List (Table × PNet F)) (i : Nat) :
    dictAtList d children i rest = children[i]?.bind fun mc => dictAt (renameFixed mc.1 d) mc.2 rest := by
  induction children generalizing i with
  | nil => rfl
  | cons mc more ih =>
    cases i with
    | zero => rfl
    | succ i => exact ih i

theorem pathLevelsList_eq (rest : List Nat) (children : List (Table × PNet F)) (i : Nat) :
    pathLevels.pathLevelsList children i rest =
      children[i]?.bind fun mc => (pathLevels mc.2 rest).map fun r => ((mc.1, mc.2.defaults) :: r.1, r.2) := by
  induction children generalizing i with
  | nil => rfl
  | cons mc more ih =>
    cases i with
    | zero => rfl
    | succ i => exact ih i

theorem dictAt_descend (path : List Nat) : ∀ (t : PNet F) (d e : Dict F), dictAt d t path = some e →
    ∃ levels o, pathLevels t path = some (levels, o) ∧ resolve o e = descend (resolve t d) levels := by
  induction path with
  | nil =>
    intro t d e h
    rw [dictAt] at h
    cases h
    exact ⟨[], t, by rw [pathLevels], rfl⟩
  | cons i rest ih =>
    intro t d e h
    cases t with
    | leaf => rw [dictAt] at h; cases h
    | node children links exposed =>
      rw [dictAt, dictAtList_eq] at h
      obtain ⟨mc, hmc, h⟩ := Option.bind_eq_some_iff.1 h
      obtain ⟨levels, o, hp, hr⟩ := ih mc.2 _ e h
      exact ⟨(mc.1, mc.2.defaults) :: levels, o, by rw [pathLevels, pathLevelsList_eq, hmc, Option.bind_some, hp]; rfl, hr⟩

variable [Scalar F] in
/-- the value a leaf is evaluated at: what `descend` delivers under the leaf's parameter name, else the leaf's own default -/
theorem leaf_value (pins idx) (S0 S1 : Mat F) (param : String) (dflt : F) (d : Dict F) :
    inst d (.leaf pins idx S0 S1 param dflt) =
      .leaf { pins := pins, idx := idx, S := affine S0 S1 ((d.get? param).getD dflt) } := by
  rw [inst]

end PNet
