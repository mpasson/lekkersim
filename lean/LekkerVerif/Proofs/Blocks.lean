import Mathlib.Analysis.SpecialFunctions.Complex.Circle
import Mathlib.Analysis.SpecialFunctions.Pow.Real
import Mathlib.Analysis.SpecialFunctions.Trigonometric.Basic
import Mathlib.LinearAlgebra.Matrix.Notation
import Mathlib.Data.Matrix.Mul
import Mathlib.Data.Matrix.Block
import Mathlib.Data.Matrix.Reflection
import Mathlib.Logic.Equiv.Fin.Basic

/-! Closed forms of the documented library blocks over ℝ/ℂ, written in the shape of the source expressions, and their
physics: phases, power ratios, unitarity of the lossless blocks, passivity of the lossy ones.  `Proofs/BlocksTie.lean`
identifies each closed form with the matrix traced from the block class of the current source (`Generated/Blocks.lean`);
the `C09_*` theorems are stated about the traced matrices and reach the facts below through that identification.

Unitarity is always shown the same way: the columns have norm 1 (the block's `_power` facts) and are orthogonal
(`mat2_unitary`); a four-port is cut into 2×2 blocks (`blocks4`) and inherits it from them. -/

open Matrix Complex

namespace Blocks

theorem normSq_cexp {z : ℂ} (hz : z.re = 0) : Complex.normSq (cexp z) = 1 := by
  rw [Complex.normSq_eq_norm_sq, Complex.norm_exp, hz, Real.exp_zero, one_pow]

theorem normSq_of_phase {e : ℂ} {t : ℝ} (h : e = cexp (t * I)) : Complex.normSq e = 1 :=
  h ▸ normSq_cexp (by simp)

theorem normSq_sqrt {t : ℝ} (ht : 0 ≤ t) : Complex.normSq ((Real.sqrt t : ℝ) : ℂ) = t := by
  rw [Complex.normSq_ofReal, Real.mul_self_sqrt ht]

theorem normSq_cexp_mul_sqrt {z : ℂ} (hz : z.re = 0) {t : ℝ} (ht : 0 ≤ t) :
    Complex.normSq (cexp z * ((Real.sqrt t : ℝ) : ℂ)) = t := by
  rw [Complex.normSq_mul, normSq_cexp hz, one_mul, normSq_sqrt ht]

theorem normSq_sqrt_mul_cexp {z : ℂ} (hz : z.re = 0) {t : ℝ} (ht : 0 ≤ t) :
    Complex.normSq (((Real.sqrt t : ℝ) : ℂ) * cexp z) = t := by
  rw [mul_comm, normSq_cexp_mul_sqrt hz ht]

theorem mat2_unitary (p q r s : ℂ) (h11 : Complex.normSq p + Complex.normSq r = 1)
    (h22 : Complex.normSq q + Complex.normSq s = 1)
    (h12 : (starRingEnd ℂ) p * q + (starRingEnd ℂ) r * s = 0) (h21 : (starRingEnd ℂ) q * p + (starRingEnd ℂ) s * r = 0) :
    (!![p, q; r, s] : Matrix (Fin 2) (Fin 2) ℂ)ᴴ * !![p, q; r, s] = 1 := by
  have hH : (!![p, q; r, s] : Matrix (Fin 2) (Fin 2) ℂ)ᴴ =
      !![(starRingEnd ℂ) p, (starRingEnd ℂ) r; (starRingEnd ℂ) q, (starRingEnd ℂ) s] := (eta_fin_two _).trans rfl
  rw [hH, mul_fin_two, one_fin_two, h12, h21, ← Complex.normSq_eq_conj_mul_self, ← Complex.normSq_eq_conj_mul_self,
    ← Complex.normSq_eq_conj_mul_self, ← Complex.normSq_eq_conj_mul_self, ← Complex.ofReal_add, ← Complex.ofReal_add,
    h11, h22, Complex.ofReal_one]

/-- reflection-free reciprocal two-port with transmission `e` -/
def antidiag (e : ℂ) : Matrix (Fin 2) (Fin 2) ℂ := !![0, e; e, 0]

theorem antidiag_unitary (e : ℂ) (he : Complex.normSq e = 1) : (antidiag e)ᴴ * antidiag e = 1 :=
  mat2_unitary 0 e e 0 (by simpa using he) (by simpa using he) (by simp) (by simp)

theorem antidiag_symm (e : ℂ) : (antidiag e)ᵀ = antidiag e := (eta_fin_two _).trans rfl

/-- `S[0,1] = S[1,0] = np.exp(2.0j * np.pi * n / wl * self.L)` -/
noncomputable def waveguide (L n wl : ℝ) : Matrix (Fin 2) (Fin 2) ℂ := antidiag (cexp (2 * I * Real.pi * n / wl * L))

theorem waveguide_phase (L n wl : ℝ) : waveguide L n wl 0 1 = cexp (((2 * Real.pi * n * L / wl : ℝ) : ℂ) * I) := by
  show cexp _ = _
  congr 1; push_cast; ring

theorem waveguide_unitary (L n wl : ℝ) : (waveguide L n wl)ᴴ * waveguide L n wl = 1 :=
  antidiag_unitary _ (normSq_of_phase (waveguide_phase L n wl))

/-- `np.exp(1.0j * np.pi * PS)` -/
noncomputable def phaseShifter (ps : ℝ) : Matrix (Fin 2) (Fin 2) ℂ := antidiag (cexp (I * Real.pi * ps))

theorem phaseShifter_phase (ps : ℝ) : phaseShifter ps 0 1 = cexp (((Real.pi * ps : ℝ) : ℂ) * I) := by
  show cexp _ = _
  congr 1; push_cast; ring

theorem phaseShifter_unitary (ps : ℝ) : (phaseShifter ps)ᴴ * phaseShifter ps = 1 :=
  antidiag_unitary _ (normSq_of_phase (phaseShifter_phase ps))

/-- `np.exp(1.0j * np.pi * (2.0 * n / wl * self.L + PS))` -/
noncomputable def thPhaseShifter (L n wl ps : ℝ) : Matrix (Fin 2) (Fin 2) ℂ :=
  antidiag (cexp (I * Real.pi * (2 * n / wl * L + ps)))

theorem thPhaseShifter_phase (L n wl ps : ℝ) :
    thPhaseShifter L n wl ps 0 1 = cexp (((2 * Real.pi * n * L / wl + Real.pi * ps : ℝ) : ℂ) * I) := by
  show cexp _ = _
  congr 1; push_cast; ring

theorem thPhaseShifter_unitary (L n wl ps : ℝ) : (thPhaseShifter L n wl ps)ᴴ * thPhaseShifter L n wl ps = 1 :=
  antidiag_unitary _ (normSq_of_phase (thPhaseShifter_phase L n wl ps))

/-- `S[0,1] = S[1,0] = 10.0 ** (-0.05 * loss)` -/
noncomputable def attenuator (loss : ℝ) : Matrix (Fin 2) (Fin 2) ℂ := antidiag (((10 : ℝ) ^ (-(5 / 100 : ℝ) * loss) : ℝ) : ℂ)

theorem attenuator_power (loss : ℝ) : Complex.normSq (attenuator loss 0 1) = (10 : ℝ) ^ (-loss / 10) := by
  show Complex.normSq ((_ : ℝ) : ℂ) = _
  rw [Complex.normSq_ofReal, ← Real.rpow_add (by norm_num : (0 : ℝ) < 10)]
  congr 1; ring

theorem attenuator_passive (loss : ℝ) (h : 0 ≤ loss) : Complex.normSq (attenuator loss 0 1) ≤ 1 := by
  rw [attenuator_power]
  apply Real.rpow_le_one_of_one_le_of_nonpos (by norm_num)
  linarith

/-- `S[0,1] = S[1,0] = np.sqrt(c)` -/
noncomputable def linearAttenuator (c : ℝ) : Matrix (Fin 2) (Fin 2) ℂ := antidiag ((Real.sqrt c : ℝ) : ℂ)

theorem linearAttenuator_power (c : ℝ) (h : 0 ≤ c) : Complex.normSq (linearAttenuator c 0 1) = c :=
  normSq_sqrt h

theorem linearAttenuator_passive (c : ℝ) (h0 : 0 ≤ c) (h1 : c ≤ 1) : Complex.normSq (linearAttenuator c 0 1) ≤ 1 := by
  rw [linearAttenuator_power c h0]; exact h1

/-- `[[t * exp(1j * p1), c], [-c, t * exp(-1j * p1)]]`, `t = sqrt(ref)`, `c = sqrt(1 - ref)`, `p1 = pi * phase` -/
noncomputable def mirror (ref phase : ℝ) : Matrix (Fin 2) (Fin 2) ℂ :=
  let t : ℂ := (Real.sqrt ref : ℝ)
  let c : ℂ := (Real.sqrt (1 - ref) : ℝ)
  !![t * cexp (I * (Real.pi * phase)), c; -c, t * cexp (-I * (Real.pi * phase))]

theorem mirror_power (ref phase : ℝ) (h0 : 0 ≤ ref) (h1 : ref ≤ 1) :
    Complex.normSq (mirror ref phase 0 0) = ref ∧ Complex.normSq (mirror ref phase 1 1) = ref ∧
    Complex.normSq (mirror ref phase 0 1) = 1 - ref ∧ Complex.normSq (mirror ref phase 1 0) = 1 - ref := by
  have hc := normSq_sqrt (sub_nonneg.2 h1)
  exact ⟨normSq_sqrt_mul_cexp (by simp) h0, normSq_sqrt_mul_cexp (by simp) h0, hc, (Complex.normSq_neg _).trans hc⟩

/-- the two reflections carry opposite phases, so the columns are orthogonal -/
theorem mirror_unitary (ref phase : ℝ) (h0 : 0 ≤ ref) (h1 : ref ≤ 1) : (mirror ref phase)ᴴ * mirror ref phase = 1 := by
  obtain ⟨h00, h11, h01, h10⟩ := mirror_power ref phase h0 h1
  -- conjugation goes inside `exp` and flips the sign of `I`; the generic `map_mul` is slow on `starRingEnd`
  refine mat2_unitary _ _ _ _ ((congrArg₂ (· + ·) h00 h10).trans (add_sub_cancel ref 1))
    ((congrArg₂ (· + ·) h01 h11).trans (sub_add_cancel 1 ref)) ?_ ?_ <;>
    simp only [RingHom.map_mul, RingHom.map_neg, Complex.conj_ofReal, Complex.conj_I, ← Complex.exp_conj, neg_neg] <;> ring

/-- `[[np.exp(1.0j * p1)]]` -/
noncomputable def perfectMirror (phase : ℝ) : Matrix (Fin 1) (Fin 1) ℂ := !![cexp (I * (Real.pi * phase))]

theorem perfectMirror_unit (phase : ℝ) : Complex.normSq (perfectMirror phase 0 0) = 1 :=
  normSq_cexp (z := I * (Real.pi * phase)) (by simp)

/-- the 4×4 matrix cut into the 2×2 blocks `A B; C D` -/
def blocks4 (A B C D : Matrix (Fin 2) (Fin 2) ℂ) : Matrix (Fin 4) (Fin 4) ℂ :=
  (fromBlocks A B C D).submatrix (finSumFinEquiv : Fin 2 ⊕ Fin 2 ≃ Fin 4).symm (finSumFinEquiv : Fin 2 ⊕ Fin 2 ≃ Fin 4).symm

theorem blocks4_eq (A B C D : Matrix (Fin 2) (Fin 2) ℂ) :
    blocks4 A B C D = !![A 0 0, A 0 1, B 0 0, B 0 1; A 1 0, A 1 1, B 1 0, B 1 1;
                         C 0 0, C 0 1, D 0 0, D 0 1; C 1 0, C 1 1, D 1 0, D 1 1] :=
  (etaExpand_eq _).symm

theorem blocks4_apply (A B C D : Matrix (Fin 2) (Fin 2) ℂ) (i j : Fin 2) :
    blocks4 A B C D (Fin.castAdd 2 i) (Fin.castAdd 2 j) = A i j ∧ blocks4 A B C D (Fin.castAdd 2 i) (Fin.natAdd 2 j) = B i j ∧
    blocks4 A B C D (Fin.natAdd 2 i) (Fin.castAdd 2 j) = C i j ∧ blocks4 A B C D (Fin.natAdd 2 i) (Fin.natAdd 2 j) = D i j := by
  have hl (i : Fin 2) : (finSumFinEquiv : Fin 2 ⊕ Fin 2 ≃ Fin 4).symm (Fin.castAdd 2 i) = Sum.inl i :=
    finSumFinEquiv_symm_apply_castAdd i
  have hr (i : Fin 2) : (finSumFinEquiv : Fin 2 ⊕ Fin 2 ≃ Fin 4).symm (Fin.natAdd 2 i) = Sum.inr i :=
    finSumFinEquiv_symm_apply_natAdd i
  simp only [blocks4, submatrix_apply, hl, hr]
  exact ⟨rfl, rfl, rfl, rfl⟩

theorem blocks4_diag_unitary {A D : Matrix (Fin 2) (Fin 2) ℂ} (hA : Aᴴ * A = 1) (hD : Dᴴ * D = 1) :
    (blocks4 A 0 0 D)ᴴ * blocks4 A 0 0 D = 1 := by
  simp [blocks4, conjTranspose_submatrix, fromBlocks_conjTranspose, fromBlocks_multiply, hA, hD]

theorem blocks4_antidiag_unitary {B C : Matrix (Fin 2) (Fin 2) ℂ} (hB : Bᴴ * B = 1) (hC : Cᴴ * C = 1) :
    (blocks4 0 B C 0)ᴴ * blocks4 0 B C 0 = 1 := by
  simp [blocks4, conjTranspose_submatrix, fromBlocks_conjTranspose, fromBlocks_multiply, hB, hC]

/-- two independent reflection-free two-ports side by side -/
def twoArms (a b : ℂ) : Matrix (Fin 4) (Fin 4) ℂ := !![0, a, 0, 0; a, 0, 0, 0; 0, 0, 0, b; 0, 0, b, 0]

theorem twoArms_eq (a b : ℂ) : twoArms a b = blocks4 (antidiag a) 0 0 (antidiag b) :=
  (blocks4_eq (antidiag a) 0 0 (antidiag b)).symm

theorem twoArms_unitary (a b : ℂ) (ha : Complex.normSq a = 1) (hb : Complex.normSq b = 1) :
    (twoArms a b)ᴴ * twoArms a b = 1 := by
  rw [twoArms_eq]; exact blocks4_diag_unitary (antidiag_unitary a ha) (antidiag_unitary b hb)

/-- `diag_blocks([S1, S2])`, `S1[0,1] = S1[1,0] = exp(0.5j*pi*PS)`, `S2[0,1] = S2[1,0] = exp(-0.5j*pi*PS)` -/
noncomputable def pushPull (ps : ℝ) : Matrix (Fin 4) (Fin 4) ℂ :=
  twoArms (cexp ((1 / 2 : ℂ) * I * Real.pi * ps)) (cexp (-(1 / 2 : ℂ) * I * Real.pi * ps))

theorem pushPull_phase (ps : ℝ) :
    pushPull ps 0 1 = cexp (((Real.pi * ps / 2 : ℝ) : ℂ) * I) ∧ pushPull ps 2 3 = cexp (((-(Real.pi * ps / 2) : ℝ) : ℂ) * I) := by
  constructor <;> (show cexp _ = _; congr 1; push_cast; ring)

theorem pushPull_unitary (ps : ℝ) : (pushPull ps)ᴴ * pushPull ps = 1 :=
  twoArms_unitary _ _ (normSq_of_phase (pushPull_phase ps).1) (normSq_of_phase (pushPull_phase ps).2)

/-- two modes side by side, each a waveguide with its own index: `diag_blocks` of the per-mode 2×2 blocks -/
noncomputable def userWaveguide2 (L wl n0 n1 : ℝ) : Matrix (Fin 4) (Fin 4) ℂ :=
  twoArms (cexp (2 * I * Real.pi * n0 / wl * L)) (cexp (2 * I * Real.pi * n1 / wl * L))

theorem userWaveguide2_eq (L wl n0 n1 : ℝ) :
    userWaveguide2 L wl n0 n1 = blocks4 (waveguide L n0 wl) 0 0 (waveguide L n1 wl) := twoArms_eq _ _

theorem userWaveguide2_modes (L wl n0 n1 : ℝ) :
    (∀ i j : Fin 2, userWaveguide2 L wl n0 n1 (Fin.castLE (by norm_num) i) (Fin.castLE (by norm_num) j) = waveguide L n0 wl i j) ∧
    (∀ i j : Fin 2, userWaveguide2 L wl n0 n1 (Fin.natAdd 2 i) (Fin.natAdd 2 j) = waveguide L n1 wl i j) ∧
    (∀ i j : Fin 2, userWaveguide2 L wl n0 n1 (Fin.castLE (by norm_num) i) (Fin.natAdd 2 j) = 0) ∧
    (∀ i j : Fin 2, userWaveguide2 L wl n0 n1 (Fin.natAdd 2 i) (Fin.castLE (by norm_num) j) = 0) := by
  rw [userWaveguide2_eq]
  exact ⟨fun i j => (blocks4_apply _ _ _ _ i j).1, fun i j => (blocks4_apply _ _ _ _ i j).2.2.2,
    fun i j => (blocks4_apply _ _ _ _ i j).2.1, fun i j => (blocks4_apply _ _ _ _ i j).2.2.1⟩

theorem userWaveguide2_unitary (L wl n0 n1 : ℝ) : (userWaveguide2 L wl n0 n1)ᴴ * userWaveguide2 L wl n0 n1 = 1 := by
  rw [userWaveguide2_eq]; exact blocks4_diag_unitary (waveguide_unitary L n0 wl) (waveguide_unitary L n1 wl)

/-- a symmetric four-port coupler: through coefficient `p`, cross coefficient `q`, no reflection -/
def coupler (p q : ℂ) : Matrix (Fin 4) (Fin 4) ℂ := !![0, 0, p, q; 0, 0, q, p; p, q, 0, 0; q, p, 0, 0]

theorem coupler_eq (p q : ℂ) : coupler p q = blocks4 0 !![p, q; q, p] !![p, q; q, p] 0 :=
  (blocks4_eq 0 !![p, q; q, p] !![p, q; q, p] 0).symm

theorem coupler_unitary (p q : ℂ) (h1 : Complex.normSq p + Complex.normSq q = 1)
    (h2 : (starRingEnd ℂ) p * q + (starRingEnd ℂ) q * p = 0) : (coupler p q)ᴴ * coupler p q = 1 := by
  have h := mat2_unitary p q q p h1 ((add_comm _ _).trans h1) h2 ((add_comm _ _).trans h2)
  rw [coupler_eq]; exact blocks4_antidiag_unitary h h

/-- BeamSplitter with an explicit power transmission `t`: through coefficient `sqrt t`, cross `i sqrt ratio` -/
noncomputable def beamSplitterT (ratio t phase : ℝ) : Matrix (Fin 4) (Fin 4) ℂ :=
  coupler (cexp (2 * I * Real.pi * phase) * ((Real.sqrt t : ℝ) : ℂ))
          (cexp (2 * I * Real.pi * phase) * (I * ((Real.sqrt ratio : ℝ) : ℂ)))

theorem beamSplitterT_normSq (ratio t phase : ℝ) (h0 : 0 ≤ ratio) (ht : 0 ≤ t) :
    Complex.normSq (cexp (2 * I * Real.pi * phase) * ((Real.sqrt t : ℝ) : ℂ)) = t ∧
    Complex.normSq (cexp (2 * I * Real.pi * phase) * (I * ((Real.sqrt ratio : ℝ) : ℂ))) = ratio := by
  refine ⟨normSq_cexp_mul_sqrt (by simp) ht, ?_⟩
  rw [mul_left_comm, Complex.normSq_mul, Complex.normSq_I, one_mul, normSq_cexp_mul_sqrt (by simp) h0]

theorem beamSplitterT_power (ratio t phase : ℝ) (h0 : 0 ≤ ratio) (ht : 0 ≤ t) :
    Complex.normSq (beamSplitterT ratio t phase 0 2) = t ∧ Complex.normSq (beamSplitterT ratio t phase 0 3) = ratio ∧
    Complex.normSq (beamSplitterT ratio t phase 2 0) = t ∧ Complex.normSq (beamSplitterT ratio t phase 3 0) = ratio ∧
    beamSplitterT ratio t phase 0 0 = 0 ∧ beamSplitterT ratio t phase 0 1 = 0 :=
  have ⟨hp, hq⟩ := beamSplitterT_normSq ratio t phase h0 ht
  ⟨hp, hq, hp, hq, rfl, rfl⟩

theorem beamSplitterT_unitary (ratio t phase : ℝ) (h0 : 0 ≤ ratio) (ht : 0 ≤ t) (h : t + ratio = 1) :
    (beamSplitterT ratio t phase)ᴴ * beamSplitterT ratio t phase = 1 := by
  obtain ⟨hp, hq⟩ := beamSplitterT_normSq ratio t phase h0 ht
  refine coupler_unitary _ _ (by rw [hp, hq, h]) ?_
  simp only [RingHom.map_mul, Complex.conj_ofReal, Complex.conj_I]
  ring

/-- BeamSplitter with `t = None`: `exp(2j*pi*phase) * [[t, c], [c, t]]` in the two off-diagonal blocks,
`c = 1j*sqrt(ratio)`, `t = sqrt(1 - ratio)` -/
noncomputable def beamSplitter (ratio phase : ℝ) : Matrix (Fin 4) (Fin 4) ℂ :=
  coupler (cexp (2 * I * Real.pi * phase) * ((Real.sqrt (1 - ratio) : ℝ) : ℂ))
          (cexp (2 * I * Real.pi * phase) * (I * ((Real.sqrt ratio : ℝ) : ℂ)))

theorem beamSplitterT_none (ratio phase : ℝ) : beamSplitterT ratio (1 - ratio) phase = beamSplitter ratio phase := rfl

theorem beamSplitter_power (ratio phase : ℝ) (h0 : 0 ≤ ratio) (h1 : ratio ≤ 1) :
    Complex.normSq (beamSplitter ratio phase 0 2) = 1 - ratio ∧ Complex.normSq (beamSplitter ratio phase 0 3) = ratio ∧
    Complex.normSq (beamSplitter ratio phase 1 2) = ratio ∧ Complex.normSq (beamSplitter ratio phase 1 3) = 1 - ratio ∧
    beamSplitter ratio phase 0 0 = 0 ∧ beamSplitter ratio phase 0 1 = 0 ∧ beamSplitter ratio phase 2 2 = 0 ∧ beamSplitter ratio phase 2 3 = 0 :=
  have ⟨hp, hq⟩ := beamSplitterT_normSq ratio (1 - ratio) phase h0 (sub_nonneg.2 h1)
  ⟨hp, hq, hq, hp, rfl, rfl, rfl, rfl⟩

theorem beamSplitter_unitary (ratio phase : ℝ) (h0 : 0 ≤ ratio) (h1 : ratio ≤ 1) :
    (beamSplitter ratio phase)ᴴ * beamSplitter ratio phase = 1 :=
  beamSplitterT_unitary ratio (1 - ratio) phase h0 (sub_nonneg.2 h1) (sub_add_cancel 1 ratio)

/-- a real rotation between two pairs of ports -/
def rot4 (c s : ℂ) : Matrix (Fin 4) (Fin 4) ℂ := !![0, 0, c, s; 0, 0, -s, c; c, -s, 0, 0; s, c, 0, 0]

theorem rot4_eq (c s : ℂ) : rot4 c s = blocks4 0 !![c, s; -s, c] !![c, -s; s, c] 0 :=
  (blocks4_eq 0 !![c, s; -s, c] !![c, -s; s, c] 0).symm

theorem rot4_unitary (c s : ℝ) (h : c * c + s * s = 1) : (rot4 c s)ᴴ * rot4 c s = 1 := by
  have hn : Complex.normSq (c : ℂ) + Complex.normSq (-(s : ℂ)) = 1 := by
    rw [Complex.normSq_neg, Complex.normSq_ofReal, Complex.normSq_ofReal, h]
  have hn' : Complex.normSq (s : ℂ) + Complex.normSq (c : ℂ) = 1 := by
    rw [Complex.normSq_ofReal, Complex.normSq_ofReal, add_comm, h]
  rw [rot4_eq]
  refine blocks4_antidiag_unitary (mat2_unitary _ _ _ _ hn hn' ?_ ?_) (mat2_unitary _ _ _ _ (hn' ▸ add_comm _ _) (hn ▸ add_comm _ _) ?_ ?_) <;>
    simp only [RingHom.map_neg, Complex.conj_ofReal] <;> ring

/-- fixed or variable polarisation rotator: `S[:2,2:] = [[c, s], [-s, c]]`, `S[2:,:2] = [[c, -s], [s, c]]`,
`c = cos(pi*angle)`, `s = sin(pi*angle)` -/
noncomputable def polRot (angle : ℝ) : Matrix (Fin 4) (Fin 4) ℂ :=
  rot4 ((Real.cos (Real.pi * angle) : ℝ) : ℂ) ((Real.sin (Real.pi * angle) : ℝ) : ℂ)

theorem polRot_rotation (angle : ℝ) :
    polRot angle 0 2 = (Real.cos (Real.pi * angle) : ℝ) ∧ polRot angle 0 3 = (Real.sin (Real.pi * angle) : ℝ) ∧
    polRot angle 1 2 = -((Real.sin (Real.pi * angle) : ℝ) : ℂ) ∧ polRot angle 1 3 = (Real.cos (Real.pi * angle) : ℝ) ∧
    polRot angle 0 0 = 0 ∧ polRot angle 0 1 = 0 := ⟨rfl, rfl, rfl, rfl, rfl, rfl⟩

theorem polRot_unitary (angle : ℝ) : (polRot angle)ᴴ * polRot angle = 1 :=
  rot4_unitary _ _ (by rw [← sq, ← sq]; exact Real.cos_sq_add_sin_sq _)

/-- `1/sqrt(2) * [[0,1,1],[1,0,0],[1,0,0]]` -/
noncomputable def splitter1x2 : Matrix (Fin 3) (Fin 3) ℂ :=
  !![0, ((1 / Real.sqrt 2 : ℝ) : ℂ), ((1 / Real.sqrt 2 : ℝ) : ℂ); ((1 / Real.sqrt 2 : ℝ) : ℂ), 0, 0; ((1 / Real.sqrt 2 : ℝ) : ℂ), 0, 0]

theorem normSq_inv_sqrt_two : Complex.normSq ((1 / Real.sqrt 2 : ℝ) : ℂ) = 1 / 2 := by
  rw [Complex.normSq_ofReal, div_mul_div_comm, Real.mul_self_sqrt (by norm_num : (0 : ℝ) ≤ 2), one_mul]

theorem splitter1x2_power :
    Complex.normSq (splitter1x2 1 0) = 1 / 2 ∧ Complex.normSq (splitter1x2 2 0) = 1 / 2 ∧ splitter1x2 0 0 = 0 :=
  ⟨normSq_inv_sqrt_two, normSq_inv_sqrt_two, rfl⟩

theorem splitter1x2_passive (x : Fin 3 → ℂ) :
    ∑ i, Complex.normSq ((splitter1x2 *ᵥ x) i) ≤ ∑ i, Complex.normSq (x i) := by
  let s : ℂ := ((1 / Real.sqrt 2 : ℝ) : ℂ)
  have hs : Complex.normSq s = 1 / 2 := normSq_inv_sqrt_two
  simp only [Fin.sum_univ_three, Matrix.mulVec, dotProduct]
  show Complex.normSq (0 * x 0 + s * x 1 + s * x 2) + Complex.normSq (s * x 0 + 0 * x 1 + 0 * x 2) +
    Complex.normSq (s * x 0 + 0 * x 1 + 0 * x 2) ≤ _
  rw [zero_mul, zero_mul, zero_mul, zero_add, add_zero, add_zero, ← mul_add, Complex.normSq_mul, Complex.normSq_mul, hs]
  -- parallelogram law: `|a + b|² + |a - b|² = 2 (|a|² + |b|²)`
  linear_combination (1 / 2) * Complex.normSq_nonneg (x 1 - x 2) + (1 / 2) * Complex.normSq_add (x 1) (x 2) +
    (1 / 2) * Complex.normSq_sub (x 1) (x 2)

/-- `Splitter1x2Gen(cross, phase)` as built by the source -/
noncomputable def splitter1x2Gen (cross phase : ℝ) : Matrix (Fin 3) (Fin 3) ℂ :=
  let t : ℂ := (Real.sqrt (1 / 2 - cross) : ℝ)
  let c : ℂ := (Real.sqrt cross : ℝ)
  !![0, t, t; t, 0, c * cexp (I * (Real.pi * phase)); t, c * cexp (-I * (Real.pi * phase)), 0]

end Blocks
