import LekkerVerif.Generated.Blocks
import LekkerVerif.Proofs.Blocks
import Mathlib.Tactic.Ring
import Mathlib.Tactic.NormNum

/-! The matrices traced from the block classes of the current source (`Generated/Blocks.lean`, symbolic execution of
`__init__` + `create_S`) are the closed forms of `Proofs/Blocks.lean` the physics theorems are about.  The scripts are
tolerant: `simp` normalises both matrices as a whole and leaves the entries that still differ, which are compared after
ring normalisation inside the transcendental functions, so a re-association, a hoisted sub-expression or an equivalent
spelling in the source re-proves; a change of meaning does not. -/

open Matrix Complex

namespace BlocksTie

/-- close what `simp` leaves of `traced = closed form`: entry equations `e = e'`, equal after pushing casts and ring
normalisation, also under `exp`, `cos`, `sqrt`, `rpow` -/
macro "entry_tie" : tactic =>
  `(tactic| first
    | (congr 1; push_cast; ring1)
    | (push_cast; ring_nf; done)
    | (push_cast; ring_nf; norm_num; done))

-- where `simp` alone closes every entry of today's source, `entry_tie` has nothing left to do
set_option linter.unusedTactic false
set_option linter.unreachableTactic false
set_option linter.unusedSimpArgs false
set_option linter.unnecessarySeqFocus false

theorem waveguide (L n wl : ℝ) : Generated.Blocks.waveguide L n wl = Blocks.waveguide L n wl := by
  simp [Generated.Blocks.waveguide, Blocks.waveguide, Blocks.antidiag] <;> entry_tie

theorem userWaveguide2 (L wl n0 n1 : ℝ) :
    Generated.Blocks.userWaveguide2 L wl n0 n1 = Blocks.userWaveguide2 L wl n0 n1 := by
  simp [Generated.Blocks.userWaveguide2, Blocks.userWaveguide2, Blocks.twoArms] <;> entry_tie

theorem beamSplitter (ratio phase : ℝ) :
    Generated.Blocks.beamSplitter ratio phase = Blocks.beamSplitter ratio phase := by
  simp [Generated.Blocks.beamSplitter, Blocks.beamSplitter, Blocks.coupler] <;> entry_tie

theorem beamSplitterT (ratio t phase : ℝ) :
    Generated.Blocks.beamSplitterT ratio t phase = Blocks.beamSplitterT ratio t phase := by
  simp [Generated.Blocks.beamSplitterT, Blocks.beamSplitterT, Blocks.coupler] <;> entry_tie

theorem splitter1x2 : Generated.Blocks.splitter1x2 = Blocks.splitter1x2 := by
  simp [Generated.Blocks.splitter1x2, Blocks.splitter1x2] <;> entry_tie

theorem phaseShifter (ps : ℝ) : Generated.Blocks.phaseShifter ps = Blocks.phaseShifter ps := by
  simp [Generated.Blocks.phaseShifter, Blocks.phaseShifter, Blocks.antidiag] <;> entry_tie

theorem pushPull (ps : ℝ) : Generated.Blocks.pushPull ps = Blocks.pushPull ps := by
  simp [Generated.Blocks.pushPull, Blocks.pushPull, Blocks.twoArms] <;> entry_tie

theorem polRotFixed (angle : ℝ) : Generated.Blocks.polRotFixed angle = Blocks.polRot angle := by
  simp [Generated.Blocks.polRotFixed, Blocks.polRot, Blocks.rot4] <;> entry_tie

theorem polRotVar (angle : ℝ) : Generated.Blocks.polRotVar angle = Blocks.polRot angle := by
  simp [Generated.Blocks.polRotVar, Blocks.polRot, Blocks.rot4] <;> entry_tie

theorem attenuator (loss : ℝ) : Generated.Blocks.attenuator loss = Blocks.attenuator loss := by
  simp [Generated.Blocks.attenuator, Blocks.attenuator, Blocks.antidiag] <;> entry_tie

theorem linearAttenuator (c : ℝ) : Generated.Blocks.linearAttenuator c = Blocks.linearAttenuator c := by
  simp [Generated.Blocks.linearAttenuator, Blocks.linearAttenuator, Blocks.antidiag] <;> entry_tie

theorem mirror (ref phase : ℝ) : Generated.Blocks.mirror ref phase = Blocks.mirror ref phase := by
  simp [Generated.Blocks.mirror, Blocks.mirror] <;> entry_tie

theorem perfectMirror (phase : ℝ) : Generated.Blocks.perfectMirror phase = Blocks.perfectMirror phase := by
  simp [Generated.Blocks.perfectMirror, Blocks.perfectMirror] <;> entry_tie

theorem thPhaseShifter (L n wl ps : ℝ) :
    Generated.Blocks.thPhaseShifter L n wl ps = Blocks.thPhaseShifter L n wl ps := by
  simp [Generated.Blocks.thPhaseShifter, Blocks.thPhaseShifter, Blocks.antidiag] <;> entry_tie

theorem splitter1x2Gen (cross phase : ℝ) :
    Generated.Blocks.splitter1x2Gen cross phase = Blocks.splitter1x2Gen cross phase := by
  simp [Generated.Blocks.splitter1x2Gen, Blocks.splitter1x2Gen] <;> entry_tie

end BlocksTie
