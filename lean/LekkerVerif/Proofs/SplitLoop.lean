import Mathlib.Logic.Relation
import LekkerVerif.Model.Split

/-! The union loop of `split()` (`Split.components`): its sets are pairwise disjoint, each is connected, and the set of a
processed structure holds its neighbours (`CInv`); hence the sets are the classes of `Conn`, the reflexive-transitive
closure of adjacency. -/

namespace Split

def Conn (adj : Node → List Node) : Node → Node → Prop := Relation.ReflTransGen (fun x y => y ∈ adj x)

/-- invariant of the union loop once the structures `done` are processed -/
structure CInv (adj : Node → List Node) (done : List Node) (sets : List (List Node)) : Prop where
  disj : ∀ S ∈ sets, ∀ T ∈ sets, ∀ x, x ∈ S → x ∈ T → S = T
  conn : ∀ S ∈ sets, ∀ x ∈ S, ∀ y ∈ S, Conn adj x y
  cover : ∀ x ∈ done, ∃ S ∈ sets, x ∈ S ∧ ∀ y ∈ adj x, y ∈ S

theorem unionStep_inv (adj : Node → List Node) (hsym : ∀ x y, y ∈ adj x → x ∈ adj y)
    (done : List Node) (sets : List (List Node)) (st : Node) (inv : CInv adj done sets) :
    CInv adj (done ++ [st]) (unionStep sets st (adj st)) := by
  unfold unionStep
  simp only
  -- the sets that miss the group `st :: adj st`, and the new set (the group and the sets that meet it), by their members
  have memHit : ∀ S, S ∈ sets.filter (fun s => s.any ((st :: adj st).contains ·)) ↔
      S ∈ sets ∧ ∃ z ∈ S, z ∈ st :: adj st := by
    intro S; simp only [List.mem_filter, List.any_eq_true, List.contains_iff_mem]
  generalize hmiss : sets.filter (fun s => !s.any ((st :: adj st).contains ·)) = miss
  generalize hnew : (st :: adj st) ++ (sets.filter (fun s => s.any ((st :: adj st).contains ·))).flatten = new
  have memMiss : ∀ S, S ∈ miss ↔ S ∈ sets ∧ ∀ z ∈ S, z ∉ st :: adj st := by
    intro S; simp only [← hmiss, List.mem_filter, Bool.not_eq_true', List.any_eq_false, List.contains_iff_mem]
  have memNew : ∀ x, x ∈ new ↔ x ∈ st :: adj st ∨ ∃ S ∈ sets, (∃ z ∈ S, z ∈ st :: adj st) ∧ x ∈ S := by
    intro x
    rw [← hnew, List.mem_append, List.mem_flatten]
    exact or_congr_right (exists_congr fun S => (and_congr_left' (memHit S)).trans and_assoc)
  clear hmiss hnew memHit
  have toSt : ∀ x ∈ new, Conn adj st x := by
    intro x hx
    have grp : ∀ z ∈ st :: adj st, Conn adj st z := fun z hz =>
      (List.mem_cons.1 hz).elim (fun e => e ▸ Relation.ReflTransGen.refl) fun h => Relation.ReflTransGen.single h
    rcases (memNew x).1 hx with h | ⟨S, hS, ⟨z, hzS, hzg⟩, hxS⟩
    · exact grp x h
    · exact (grp z hzg).trans (inv.conn S hS z hzS x hxS)
  have cross : ∀ S ∈ miss, ∀ x ∈ S, x ∉ new := by
    intro S hS x hxS hxN
    obtain ⟨hSs, hSm⟩ := (memMiss S).1 hS
    rcases (memNew x).1 hxN with h | ⟨R, hR, ⟨z, hzR, hzg⟩, hxR⟩
    · exact hSm x hxS h
    · have := inv.disj S hSs R hR x hxS hxR
      subst this
      exact hSm z hzR hzg
  have last : ∀ {S}, S ∈ [new] → S = new := List.mem_singleton.1
  refine ⟨?_, ?_, ?_⟩
  · intro S hS T hT x hxS hxT
    rcases List.mem_append.1 hS with hS | hS <;> rcases List.mem_append.1 hT with hT | hT
    · exact inv.disj S ((memMiss S).1 hS).1 T ((memMiss T).1 hT).1 x hxS hxT
    · exact (cross S hS x hxS (last hT ▸ hxT)).elim
    · exact (cross T hT x hxT (last hS ▸ hxS)).elim
    · rw [last hS, last hT]
  · intro S hS x hx y hy
    rcases List.mem_append.1 hS with hS | hS
    · exact inv.conn S ((memMiss S).1 hS).1 x hx y hy
    · rw [last hS] at hx hy
      -- from `x` back to `st` (adjacency is symmetric), then on to `y`
      exact (Relation.reflTransGen_swap.1 (Relation.ReflTransGen.mono hsym _ _ (toSt x hx))).trans (toSt y hy)
  · -- coverage: the set of `x`, if it meets the group, went into the new set whole
    intro x hx
    rcases List.mem_append.1 hx with hx | hx
    · obtain ⟨S, hS, hxS, hadj⟩ := inv.cover x hx
      by_cases hm : ∃ z ∈ S, z ∈ st :: adj st
      · exact ⟨new, List.mem_append_right _ (List.mem_singleton_self _), (memNew x).2 (Or.inr ⟨S, hS, hm, hxS⟩),
          fun y hy => (memNew y).2 (Or.inr ⟨S, hS, hm, hadj y hy⟩)⟩
      · exact ⟨S, List.mem_append_left _ ((memMiss S).2 ⟨hS, fun z hz hz' => hm ⟨z, hz, hz'⟩⟩), hxS, hadj⟩
    · rw [List.mem_singleton.1 hx]
      exact ⟨new, List.mem_append_right _ (List.mem_singleton_self _), (memNew st).2 (Or.inl List.mem_cons_self),
        fun y hy => (memNew y).2 (Or.inl (List.mem_cons_of_mem _ hy))⟩

theorem components_inv (adj : Node → List Node) (hsym : ∀ x y, y ∈ adj x → x ∈ adj y) (structures : List Node) :
    CInv adj structures (components structures adj) := by
  have key : ∀ (todo done : List Node) (sets : List (List Node)), CInv adj done sets →
      CInv adj (done ++ todo) (todo.foldl (fun sets st => unionStep sets st (adj st)) sets) := by
    intro todo
    induction todo with
    | nil => intro done sets inv; rwa [List.append_nil]
    | cons st rest ih =>
      intro done sets inv
      rw [List.append_cons]
      exact ih _ _ (unionStep_inv adj hsym done sets st inv)
  exact key structures [] [] ⟨fun _ => nofun, fun _ => nofun, fun _ => nofun⟩

theorem components_spec (adj : Node → List Node) (hsym : ∀ x y, y ∈ adj x → x ∈ adj y)
    (structures : List Node) (hclosed : ∀ x ∈ structures, ∀ y ∈ adj x, y ∈ structures)
    (x y : Node) (hx : x ∈ structures) :
    (∃ S ∈ components structures adj, x ∈ S ∧ y ∈ S) ↔ Conn adj x y := by
  have inv := components_inv adj hsym structures
  constructor
  · rintro ⟨S, hS, hxS, hyS⟩
    exact inv.conn S hS x hxS y hyS
  · intro h
    -- along the chain: `y` is a structure (closedness), so the set of `x`, which is `y`'s, holds the neighbours of `y`
    have : y ∈ structures ∧ ∃ S ∈ components structures adj, x ∈ S ∧ y ∈ S := by
      induction h with
      | refl =>
        obtain ⟨S, hS, hxS, _⟩ := inv.cover x hx
        exact ⟨hx, S, hS, hxS, hxS⟩
      | @tail b c _ hbc ih =>
        obtain ⟨hb, S, hS, hxS, hbS⟩ := ih
        obtain ⟨T, hT, hbT, hadj⟩ := inv.cover b hb
        cases inv.disj S hS T hT b hbS hbT
        exact ⟨hclosed b hb c hbc, S, hS, hxS, hadj c hbc⟩
    exact this.2

theorem components_partition (adj : Node → List Node) (hsym : ∀ x y, y ∈ adj x → x ∈ adj y) (structures : List Node)
    (x : Node) (hx : x ∈ structures) :
    (∃ S ∈ components structures adj, x ∈ S) ∧
    ∀ S ∈ components structures adj, ∀ T ∈ components structures adj, x ∈ S → x ∈ T → S = T := by
  have inv := components_inv adj hsym structures
  refine ⟨?_, fun S hS T hT h1 h2 => inv.disj S hS T hT x h1 h2⟩
  obtain ⟨S, hS, hxS, _⟩ := inv.cover x hx
  exact ⟨S, hS, hxS⟩

end Split
