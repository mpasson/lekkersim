import LekkerVerif.Model.WiringNet
import LekkerVerif.Proofs.WiringPut
import LekkerVerif.Proofs.WiringDetach
import LekkerVerif.Core.DefinedLoop
import LekkerVerif.Core.HierLists

/-! # Every consistent wiring state denotes a well-formed network

`Wiring.denote` is the network a wiring state hands to the elimination loop.  Here: in every consistent state (`WInv`)
that joins no structure to itself (`NoSelf`) and whose structure objects are coherent with the component table
(`Coherent`), that network is well formed (`NetD.WF`), its exposure is admissible when only free pins are exposed
(`NetD.ExposureOK`), and therefore every theorem about `NetD.solveWith` (C01 soundness / uniqueness, definedness)
applies to the circuit left behind by **any** edit history (`reach_denote_wf`, `reach_denote_solve` for every state that
satisfies `Reach`; `run_reach`, `runX_reach`: every history ends in one). -/

namespace Wiring

theorem filterMap_getElem?_of_all_some {α β : Type} (f : α → Option β) (l : List α) (h : ∀ x ∈ l, (f x).isSome)
    (k : Nat) : (l.filterMap f)[k]? = (l[k]?).bind f := by
  induction l generalizing k with
  | nil => rfl
  | cons a t ih =>
    obtain ⟨b, hb⟩ := Option.isSome_iff_exists.1 (h a List.mem_cons_self)
    rw [List.filterMap_cons_some hb]
    cases k with
    | zero => exact hb.symm
    | succ k => exact ih (fun x hx => h x (List.mem_cons_of_mem _ hx)) k

theorem posOf_inj (w : W) (i j : Nat) (hi : i ∈ w.structs) (hj : j ∈ w.structs) (h : posOf w i = posOf w j) : i = j := by
  have h1 : w.structs[posOf w i]? = some i := List.getElem?_idxOf hi
  rw [h, show w.structs[posOf w j]? = some j from List.getElem?_idxOf hj] at h1
  exact (Option.some.inj h1).symm

/-- the component table is coherent with the structure objects of `w`: every present structure has a component,
the pins an object still has are (under `pinName`) distinct pin names of that component -/
structure Coherent {F : Type} (comps : List (CompD F)) (pinName : Pin → String) (w : W) : Prop where
  present : ∀ i ∈ w.structs, ∃ c, comps[i]? = some c
  pinsOf : ∀ i o c, getObj w i = some o → comps[i]? = some c → ∀ p ∈ o.pins, pinName (i, p) ∈ c.pins
  inj : ∀ i o, getObj w i = some o → ∀ p ∈ o.pins, ∀ q ∈ o.pins, pinName (i, p) = pinName (i, q) → p = q
  compNodup : ∀ i ∈ w.structs, ∀ c, comps[i]? = some c → c.pins.Nodup

/-- re-addressing of a pin: (position of its structure, pin name) -/
def addr (pinName : Pin → String) (w : W) (x : Pin) : PinRef := (posOf w x.1, pinName x)

/-- no connection joins two pins of the same structure (`connect` rejects these; not recorded in `WInv`) -/
def NoSelf (w : W) : Prop := ∀ c ∈ w.conns, c.1.1 ≠ c.2.1

section
variable {F : Type} (comps : List (CompD F)) (pinName : Pin → String) (expName : Nat → String) (w : W)

theorem denote_links : (denote comps pinName expName w).links = w.conns.map fun c => (addr pinName w c.1, addr pinName w c.2) := rfl

theorem denote_exposed : (denote comps pinName expName w).exposed = w.mapping.map fun m => (expName m.1, addr pinName w m.2) := rfl

variable {comps pinName w}

theorem denote_comps_get (coh : Coherent comps pinName w) (i : Nat) (hi : i ∈ w.structs) :
    (denote comps pinName expName w).comps[posOf w i]? = comps[i]? := by
  show (w.structs.filterMap fun i => comps[i]?)[posOf w i]? = _
  rw [filterMap_getElem?_of_all_some _ _ (fun x hx => by
    obtain ⟨c, hc⟩ := coh.present x hx; rw [hc]; rfl), show w.structs[posOf w i]? = some i from List.getElem?_idxOf hi]
  rfl

theorem live_comp (coh : Coherent comps pinName w) (x : Pin) (hx : Live w x) :
    ∃ c, (denote comps pinName expName w).comps[(addr pinName w x).1]? = some c ∧ (addr pinName w x).2 ∈ c.pins := by
  obtain ⟨hs, o, ho, hp⟩ := hx
  obtain ⟨c, hc⟩ := coh.present x.1 hs
  refine ⟨c, ?_, ?_⟩
  · show (denote comps pinName expName w).comps[posOf w x.1]? = some c
    rw [denote_comps_get expName coh x.1 hs, hc]
  · exact coh.pinsOf x.1 o c ho hc x.2 hp

theorem live_addr_inj (coh : Coherent comps pinName w) (x y : Pin) (hx : Live w x) (hy : Live w y)
    (h : addr pinName w x = addr pinName w y) : x = y := by
  obtain ⟨hsx, ox, hox, hpx⟩ := hx
  obtain ⟨hsy, oy, hoy, hpy⟩ := hy
  have h1 : posOf w x.1 = posOf w y.1 := congrArg Prod.fst h
  have h2 : pinName x = pinName y := congrArg Prod.snd h
  have hi := posOf_inj w x.1 y.1 hsx hsy h1
  obtain ⟨i, p⟩ := x
  obtain ⟨j, q⟩ := y
  simp only at hi hox hoy hpx hpy
  subst hi
  rw [hox] at hoy
  cases hoy
  rw [coh.inj i ox hox p hpx q hpy h2]

theorem denote_wf (inv : WInv w) (hns : NoSelf w) (coh : Coherent comps pinName w) :
    (denote comps pinName expName w).WF := by
  refine ⟨?_, ?_, ?_, ?_⟩
  · intro c hc
    obtain ⟨i, hi, hic⟩ := List.mem_filterMap.1 (show c ∈ w.structs.filterMap fun i => comps[i]? from hc)
    exact coh.compNodup i hi c hic
  · rw [denote_links, List.ends_map, ← inv.clistConns]
    exact inv.clistNodup.map_on fun x hx y hy h => live_addr_inj coh x y (inv.clistObj x hx) (inv.clistObj y hy) h
  · intro l hl p hp
    rw [denote_links] at hl
    obtain ⟨c, hc, rfl⟩ := List.mem_map.1 hl
    rcases hp with rfl | rfl
    · exact live_comp expName coh c.1 (inv.clistObj _ (inv.endsConnected hc).1)
    · exact live_comp expName coh c.2 (inv.clistObj _ (inv.endsConnected hc).2)
  · intro l hl h
    rw [denote_links] at hl
    obtain ⟨c, hc, rfl⟩ := List.mem_map.1 hl
    exact hns c hc (posOf_inj w _ _ (inv.clistStructs _ (inv.endsConnected hc).1)
      (inv.clistStructs _ (inv.endsConnected hc).2) h)

theorem denote_idxWF [Field F] [DecidableEq F] (hidx : ∀ c ∈ comps, ∀ n ∈ c.pins, (lookupL c.idx n).isSome) :
    (denote comps pinName expName w).IdxWF := by
  intro c hc
  obtain ⟨i, _, hic⟩ := List.mem_filterMap.1 (show c ∈ w.structs.filterMap fun i => comps[i]? from hc)
  exact hidx c (List.mem_of_getElem? hic)

theorem denote_comps_ne_nil (coh : Coherent comps pinName w) (h : w.structs ≠ []) :
    (denote comps pinName expName w).comps ≠ [] := by
  intro hnil
  obtain ⟨i, hi⟩ := List.exists_mem_of_ne_nil _ h
  obtain ⟨c, hc⟩ := coh.present i hi
  have := List.filterMap_eq_nil_iff.1 (show (w.structs.filterMap fun i => comps[i]?) = [] from hnil) i hi
  rw [hc] at this
  cases this

theorem denote_exposureOK [Field F] [DecidableEq F] (inv : WInv w) (coh : Coherent comps pinName w)
    (hfree : ∀ m ∈ w.mapping, m.2 ∈ w.free) (hnd : (w.mapping.map (·.2)).Nodup) :
    (denote comps pinName expName w).ExposureOK := by
  constructor
  · -- distinct exposed pins are distinct live pins, so their addresses differ
    rw [denote_exposed, List.map_map]
    exact List.pairwise_map.2 ((List.pairwise_map.1 hnd).imp_of_mem fun hx hy hne h =>
      hne (live_addr_inj coh _ _ (inv.freeObj _ (hfree _ hx)) (inv.freeObj _ (hfree _ hy)) h))
  · intro e he
    rw [denote_exposed] at he
    obtain ⟨m, hm, rfl⟩ := List.mem_map.1 he
    have hf := hfree m hm
    have hl : Live w m.2 := inv.freeObj _ hf
    refine ⟨(NetD.mem_initial_pins _ _).2 (live_comp expName coh m.2 hl), (NetD.not_lnk_iff _ _).2 fun l hlk => ?_⟩
    -- a free pin and a connected pin are different live pins, so their addresses differ
    have key : ∀ x ∈ w.clist, addr pinName w m.2 ≠ addr pinName w x := fun x hx h =>
      inv.freeDisj _ hf (live_addr_inj coh _ _ hl (inv.clistObj x hx) h ▸ hx)
    rw [denote_links] at hlk
    obtain ⟨c, hc, rfl⟩ := List.mem_map.1 hlk
    exact ⟨key c.1 (inv.endsConnected hc).1, key c.2 (inv.endsConnected hc).2⟩

end

def StructsObj (w : W) : Prop := ∀ i ∈ w.structs, ∃ o, getObj w i = some o

def Bounded (pins : List Nat) (w : W) : Prop :=
  ∀ i o, getObj w i = some o → ∃ n, pins[i]? = some n ∧ ∀ p ∈ o.pins, p < n

/-- what one call may do to the heap, the connection table and the structure list -/
structure StepRel (w w' : W) : Prop where
  bw : ∀ i o', getObj w' i = some o' → ∃ o, getObj w i = some o ∧ ∀ p ∈ o'.pins, p ∈ o.pins
  fw : ∀ i o, getObj w i = some o → ∃ o', getObj w' i = some o'
  conns : ∀ c ∈ w'.conns, c ∈ w.conns ∨ c.1.1 ≠ c.2.1
  structs : ∀ j ∈ w'.structs, j ∈ w.structs ∨ ∃ o, getObj w j = some o

theorem StepRel.mapping (w : W) (m : List (Nat × Pin)) : StepRel w { w with mapping := m } :=
  ⟨fun _ o' h => ⟨o', h, fun _ hp => hp⟩, fun _ o h => ⟨o, h⟩, fun _ h => Or.inl h, fun _ h => Or.inl h⟩

theorem StepRel.refl (w : W) : StepRel w w := StepRel.mapping w w.mapping

theorem Connected.rel {w w' : W} {p q : Pin} (c : Connected w p q w') (hne : p.1 ≠ q.1) : StepRel w w' := by
  refine ⟨fun i o' hio => ?_, fun i o hio => ?_, fun e he => ?_, fun j hj => Or.inl (c.structs ▸ hj)⟩
  · obtain ⟨o, ho, r⟩ := c.heap.bw i o' hio
    exact ⟨o, ho, fun x hx => r.pins ▸ hx⟩
  · obtain ⟨o', ho', _⟩ := c.heap.fw i o hio
    exact ⟨o', ho'⟩
  · rw [c.conns] at he
    rcases List.mem_append.1 he with he | he
    · exact Or.inl he
    · rw [List.mem_singleton.1 he]; exact Or.inr hne

theorem Detached.rel {rm : Bool} {w w' : W} {i : Nat} (d : Detached rm w i w') : StepRel w w' := by
  refine ⟨fun j oj' h => ?_, fun j oj hoj => ?_, fun c hc => Or.inl ?_, fun j hj => Or.inl ?_⟩
  · obtain ⟨oj, hoj, r⟩ := d.heap.bw j oj' h
    refine ⟨oj, hoj, fun x hx => ?_⟩
    by_cases hj : j = i
    · rw [r.1 hj] at hx
      exact hx
    · exact (((r.2 hj).pins x).1 hx).1
  · obtain ⟨oj', hoj', _⟩ := d.heap.fw j oj hoj
    exact ⟨oj', hoj'⟩
  · rw [d.conns] at hc; exact List.mem_of_mem_filter hc
  · rw [d.structs] at hj; exact List.mem_of_mem_erase hj

theorem Changed.rel {w w' : W} (c : Changed w w') : StepRel w w' := by
  cases c with
  | added i o _ ho =>
    refine ⟨fun _ o' h => ⟨o', h, fun _ hp => hp⟩, fun _ o h => ⟨o, h⟩, fun _ h => Or.inl h, fun j hj => ?_⟩
    rcases List.mem_append.1 hj with hj | hj
    · exact Or.inl hj
    · rw [List.mem_singleton.1 hj]; exact Or.inr ⟨o, ho⟩
  | connected p q _ hne _ _ c => exact c.rel hne
  | detached rm i _ d => exact d.rel
  | mapped m => exact StepRel.mapping w m

theorem step_rel (w : W) (inv : WInv w) (op : Op) : StepRel w (step w op).1 := by
  rcases step_cases w inv op with h | ⟨_, c⟩
  · rw [h]; exact StepRel.refl w
  · exact c.rel

theorem StepRel.noSelf {w w' : W} (r : StepRel w w') (h : NoSelf w) : NoSelf w' := by
  intro c hc
  rcases r.conns c hc with h1 | h1
  · exact h c h1
  · exact h1

theorem StepRel.structsObj {w w' : W} (r : StepRel w w') (h : StructsObj w) : StructsObj w' := by
  intro j hj
  rcases r.structs j hj with h1 | ⟨o, ho⟩
  · obtain ⟨o, ho⟩ := h j h1
    exact r.fw j o ho
  · exact r.fw j o ho

theorem StepRel.bounded {pins : List Nat} {w w' : W} (r : StepRel w w') (h : Bounded pins w) : Bounded pins w' := by
  intro i o' ho'
  obtain ⟨o, ho, hsub⟩ := r.bw i o' ho'
  obtain ⟨n, hn, hlt⟩ := h i o ho
  exact ⟨n, hn, fun p hp => hlt p (hsub p hp)⟩

/-- the facts about a state reached from `init pins` that the denotation needs -/
structure Reach (pins : List Nat) (w : W) : Prop where
  inv : WInv w
  noSelf : NoSelf w
  structsObj : StructsObj w
  bounded : Bounded pins w

theorem init_reach (pins : List Nat) : Reach pins (init pins) := by
  refine ⟨init_inv pins, (fun c hc => nomatch hc), (fun i hi => nomatch hi), ?_⟩
  · intro i o ho
    obtain ⟨n, hn, rfl⟩ := init_getObj pins i o ho
    exact ⟨n, hn, fun p hp => List.mem_range.1 hp⟩

theorem StepRel.reach {pins : List Nat} {w w' : W} (sr : StepRel w w') (r : Reach pins w) (inv' : WInv w') :
    Reach pins w' :=
  ⟨inv', sr.noSelf r.noSelf, sr.structsObj r.structsObj, sr.bounded r.bounded⟩

theorem step_reach {pins : List Nat} (w : W) (r : Reach pins w) (op : Op) : Reach pins (step w op).1 :=
  (step_rel w r.inv op).reach r (step_inv w r.inv op)

theorem stepX_reach {pins : List Nat} (nameOf : Pin → Nat) (w : W) (r : Reach pins w) (op : OpX) :
    Reach pins (stepX nameOf w op).1 := by
  cases op with
  | base op => exact step_reach w r op
  | raise => exact (StepRel.mapping w _).reach r (r.inv.mapping _)
  | put i s q => exact put_preserves (fun w op r => step_reach w r op) w r i s q

/-- a history of wiring calls that may also contain raise-all (`maps_all_pins`), as the driver runs it -/
def runX (nameOf : Pin → Nat) (ops : List OpX) (pins : List Nat) : W :=
  ops.foldl (fun w op => (stepX nameOf w op).1) (init pins)

theorem run_reach (pins : List Nat) (ops : List Op) : Reach pins (run ops pins) :=
  List.foldlRecOn ops _ (init_reach pins) fun w r op _ => step_reach w r op

theorem runX_reach (nameOf : Pin → Nat) (pins : List Nat) (ops : List OpX) : Reach pins (runX nameOf ops pins) :=
  List.foldlRecOn ops _ (init_reach pins) fun w r op _ => stepX_reach nameOf w r op

theorem run_noSelf (pins : List Nat) (ops : List Op) : NoSelf (run ops pins) := (run_reach pins ops).noSelf

/-- what the harness satisfies by construction: structure `i` starts with as many pins as component `i` has pin names,
the names of a component are distinct, and pin `p` of structure `i` is called by the `p`-th name of component `i` -/
structure Static {F : Type} (comps : List (CompD F)) (pinName : Pin → String) (pins : List Nat) : Prop where
  counts : pins = comps.map fun c => c.pins.length
  nodup : ∀ c ∈ comps, c.pins.Nodup
  name : ∀ i c, comps[i]? = some c → ∀ p (h : p < c.pins.length), pinName (i, p) = c.pins[p]

/-- the pin naming of the driver (`opWSolve`) -/
def driverPinName {F : Type} (comps : List (CompD F)) : Pin → String := fun p =>
  match comps[p.1]? with
  | some c => c.pins.getD p.2 "?"
  | none => "?"

theorem static_driver {F : Type} (comps : List (CompD F)) (hnd : ∀ c ∈ comps, c.pins.Nodup) :
    Static comps (driverPinName comps) (comps.map fun c => c.pins.length) := by
  refine ⟨rfl, hnd, ?_⟩
  intro i c hc p hp
  simp only [driverPinName, hc]
  rw [List.getD_eq_getElem?_getD, List.getElem?_eq_getElem hp]
  rfl

theorem reach_coherent {F : Type} {comps : List (CompD F)} {pinName : Pin → String} {pins : List Nat}
    (st : Static comps pinName pins) {w : W} (r : Reach pins w) : Coherent comps pinName w := by
  -- an object at `i` comes with the component at `i`, whose name count bounds the object's pins
  have key : ∀ i o, getObj w i = some o → ∃ c, comps[i]? = some c ∧ ∀ p ∈ o.pins, p < c.pins.length := by
    intro i o ho
    obtain ⟨n, hn, hlt⟩ := r.bounded i o ho
    rw [st.counts, List.getElem?_map] at hn
    cases hc : comps[i]? with
    | none => rw [hc] at hn; cases hn
    | some c =>
      rw [hc] at hn
      simp only [Option.map_some, Option.some.injEq] at hn
      exact ⟨c, rfl, fun p hp => by rw [hn]; exact hlt p hp⟩
  refine ⟨?_, ?_, ?_, ?_⟩
  · intro i hi
    obtain ⟨o, ho⟩ := r.structsObj i hi
    obtain ⟨c, hc, _⟩ := key i o ho
    exact ⟨c, hc⟩
  · intro i o c ho hc p hp
    obtain ⟨c', hc', hlt⟩ := key i o ho
    rw [hc] at hc'
    cases hc'
    rw [st.name i c hc p (hlt p hp)]
    exact List.getElem_mem _
  · intro i o ho p hp q hq h
    obtain ⟨c, hc, hlt⟩ := key i o ho
    rw [st.name i c hc p (hlt p hp), st.name i c hc q (hlt q hq)] at h
    exact (List.Nodup.getElem_inj_iff (st.nodup c (List.mem_of_getElem? hc))).1 h
  · intro i _ c hc
    exact st.nodup c (List.mem_of_getElem? hc)

section
variable {F : Type} {comps : List (CompD F)} {pinName : Pin → String} {pins : List Nat}

theorem reach_denote_wf (st : Static comps pinName pins) (expName : Nat → String) {w : W} (r : Reach pins w) :
    (denote comps pinName expName w).WF :=
  denote_wf expName r.inv r.noSelf (reach_coherent st r)

/-- every edit history (add / re-add / connect / cut / remove / expose, valid or not) leaves behind a state that
denotes a well-formed network -/
theorem run_denote_wf (st : Static comps pinName pins) (expName : Nat → String) (ops : List Op) :
    (denote comps pinName expName (run ops pins)).WF :=
  reach_denote_wf st expName (run_reach pins ops)

variable [Field F] [DecidableEq F]

/-- in every reachable state, for every merge schedule: if only free pins are exposed, each once, then whatever
`solve` returns on the denoted network is the solution operator of that network; and, if every pin name has a matrix index
and at least one structure is present, `solve` with a valid schedule either returns or fails because an inner system is
singular -/
theorem reach_denote_solve (st : Static comps pinName pins) (expName : Nat → String) {w : W} (r : Reach pins w) :
    (denote comps pinName expName w).WF ∧
    ((∀ m ∈ w.mapping, m.2 ∈ w.free) → (w.mapping.map (·.2)).Nodup →
      ∀ sched total, (denote comps pinName expName w).solveWith sched = .ok total →
        (denote comps pinName expName w).SolvedBy total.sem) ∧
    ((∀ c ∈ comps, ∀ n ∈ c.pins, (lookupL c.idx n).isSome) → w.structs ≠ [] →
      ∀ sched, Solve.ValidSched sched →
        (∃ total, (denote comps pinName expName w).solveWith sched = .ok total) ∨
        (denote comps pinName expName w).solveWith sched = .error .singular) := by
  have coh := reach_coherent st r
  have wf := reach_denote_wf st expName r
  refine ⟨wf, ?_, ?_⟩
  · intro hfree hnd sched total h
    exact NetD.solveWith_solves _ wf (denote_exposureOK expName r.inv coh hfree hnd) sched total h
  · intro hidx hne sched hv
    exact NetD.solveWith_defined _ wf (denote_idxWF expName hidx) (denote_comps_ne_nil expName coh hne) sched hv

theorem run_denote_solve (st : Static comps pinName pins) (expName : Nat → String) (ops : List Op) :
    let w := run ops pins
    let net := denote comps pinName expName w
    net.WF ∧
    ((∀ m ∈ w.mapping, m.2 ∈ w.free) → (w.mapping.map (·.2)).Nodup →
      ∀ sched total, net.solveWith sched = .ok total → net.SolvedBy total.sem) ∧
    ((∀ c ∈ comps, ∀ n ∈ c.pins, (lookupL c.idx n).isSome) → w.structs ≠ [] →
      ∀ sched, Solve.ValidSched sched →
        (∃ total, net.solveWith sched = .ok total) ∨ net.solveWith sched = .error .singular) :=
  reach_denote_solve st expName (run_reach pins ops)

end

end Wiring
