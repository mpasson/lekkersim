import LekkerVerif.Model.HierParamsWF
import LekkerVerif.Proofs.Rename

/-! `vis m` (the name `add_structure` registers a default under) against `Flatten.midName m` (the name `update_params` reads a
value from): the same on every name the table does not shield. -/

theorem vis_of_mem (m : Table) (hold : (m.map (·.2)).Nodup) (e : String × String) (he : e ∈ m) : vis m e.2 = e.1 := by
  unfold vis
  rw [(find?_key_iff Prod.snd m hold e.2 e).2 ⟨he, rfl⟩]

theorem vis_of_not_old (m : Table) (x : String) (h : x ∉ m.map (·.2)) : vis m x = x := by
  unfold vis
  rw [(find?_key_none Prod.snd m x).2 h]

theorem midName_vis (m : Table) (x : String) (h : x ∈ m.map (·.1) → x ∈ m.map (·.2)) :
    Flatten.midName m x = some (vis m x) := by
  unfold Flatten.midName vis
  cases hf : m.find? (·.2 == x) with
  | some e => rfl
  | none => rw [if_neg (mt (any_key Prod.fst m x).1 (mt h ((find?_key_none Prod.snd m x).1 hf)))]

def isGeo (k : String) : Bool := k == "R" || k == "w" || k == "pol"

theorem registerDefaults_eq {V : Type} (m : Table) (parent child : Dict V) :
    registerDefaults m parent child =
      parent.overlay ⟨(child.kv.filter fun kv => !(isGeo kv.1)).map fun kv => (vis m kv.1, kv.2)⟩ := rfl

theorem mem_keys_registerDefaults_right {V : Type} (m : Table) (acc cd : Dict V) (y : String) (h : y ∈ cd.keys)
    (hg : isGeo y = false) : vis m y ∈ (registerDefaults m acc cd).keys := by
  rw [registerDefaults_eq, Dict.mem_keys_overlay]
  obtain ⟨kv, hkv, rfl⟩ := List.mem_map.1 h
  exact Or.inr (List.mem_map.2 ⟨_, List.mem_map.2 ⟨kv, List.mem_filter.2 ⟨hkv, by rw [hg]; rfl⟩, rfl⟩, rfl⟩)
