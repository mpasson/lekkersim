import LekkerVerif.Model.Wiring
import LekkerVerif.Proofs.Dict

/-! `Solver.maps_all_pins` ("raise all pins") as transcribed in `Wiring.raiseLoop` / `Wiring.raiseAll`.  What is said of the
mapping comes from one induction principle (`raiseLoop_invariant`: what holds before the loop and survives one more
exposure holds after it), what is said of the outcome from `raiseLoop_out_cases`. -/

namespace Wiring

theorem raiseAll_mapping (nameOf : Pin → Nat) (w : W) :
    (raiseAll nameOf w).1.mapping = (raiseLoop nameOf w.free w.mapping).1 := rfl

theorem raiseAll_out (nameOf : Pin → Nat) (w : W) :
    (raiseAll nameOf w).2 = (raiseLoop nameOf w.free w.mapping).2 := rfl

theorem raiseAll_only_mapping (nameOf : Pin → Nat) (w : W) :
    let w' := (raiseAll nameOf w).1
    w'.heap = w.heap ∧ w'.structs = w.structs ∧ w'.conns = w.conns ∧ w'.clist = w.clist ∧ w'.free = w.free :=
  ⟨rfl, rfl, rfl, rfl, rfl⟩

/-- the loop only ever appends `(nameOf p, p)` for a scanned pin `p` that is not exposed and whose name is not taken -/
theorem raiseLoop_invariant {nameOf : Pin → Nat} (P : List (Nat × Pin) → Prop) (ps : List Pin) (m : List (Nat × Pin))
    (snoc : ∀ m, ∀ p ∈ ps, P m → (∀ e ∈ m, e.2 ≠ p) → (∀ e ∈ m, e.1 ≠ nameOf p) → P (m ++ [(nameOf p, p)]))
    (h : P m) : P (raiseLoop nameOf ps m).1 := by
  fun_induction raiseLoop nameOf ps m with
  | case1 m => exact h
  | case2 p ps m _ ih => exact ih (fun m q hq => snoc m q (List.mem_cons_of_mem _ hq)) h
  | case3 p ps m _ _ => exact h
  | case4 p ps m h1 h2 ih =>
    refine ih (fun m q hq => snoc m q (List.mem_cons_of_mem _ hq)) (snoc m p List.mem_cons_self h ?_ ?_)
    · exact fun e he hp => h1 ((any_key _ _ _).2 (List.mem_map.2 ⟨e, he, hp⟩))
    · exact fun e he hn => h2 ((any_key _ _ _).2 (List.mem_map.2 ⟨e, he, hn⟩))

theorem raiseLoop_prefix (nameOf : Pin → Nat) (ps : List Pin) (m : List (Nat × Pin)) :
    ∃ added, (raiseLoop nameOf ps m).1 = m ++ added :=
  raiseLoop_invariant (fun m' => ∃ added, m' = m ++ added) ps m
    (fun _ p _ ⟨a, ha⟩ _ _ => ⟨a ++ [(nameOf p, p)], by rw [ha, List.append_assoc]⟩) ⟨[], (List.append_nil m).symm⟩

theorem raiseLoop_keeps (nameOf : Pin → Nat) (ps : List Pin) (m : List (Nat × Pin)) :
    ∀ e ∈ m, e ∈ (raiseLoop nameOf ps m).1 := by
  intro e he
  obtain ⟨a, ha⟩ := raiseLoop_prefix nameOf ps m
  rw [ha]
  exact List.mem_append_left _ he

theorem raiseAll_mapping_prefix (nameOf : Pin → Nat) (w : W) :
    ∃ added, (raiseAll nameOf w).1.mapping = w.mapping ++ added := by
  rw [raiseAll_mapping]
  exact raiseLoop_prefix nameOf w.free w.mapping

theorem raiseLoop_added_own_name (nameOf : Pin → Nat) (ps : List Pin) (m : List (Nat × Pin)) :
    ∀ e ∈ (raiseLoop nameOf ps m).1, e ∈ m ∨ (e.2 ∈ ps ∧ e.1 = nameOf e.2) := by
  refine raiseLoop_invariant (fun m' => ∀ e ∈ m', e ∈ m ∨ (e.2 ∈ ps ∧ e.1 = nameOf e.2)) ps m ?_ (fun e he => Or.inl he)
  intro m' p hp h _ _ e he
  rcases List.mem_append.1 he with he | he
  · exact h e he
  · rw [List.mem_singleton.1 he]
    exact Or.inr ⟨hp, rfl⟩

def KeysNodup (m : List (Nat × Pin)) : Prop := (m.map (·.1)).Nodup
def PinsNodup (m : List (Nat × Pin)) : Prop := (m.map (·.2)).Nodup

theorem nodup_map_snoc {α β : Type} (f : α → β) (l : List α) (a : α)
    (h : (l.map f).Nodup) (ha : ∀ e ∈ l, f e ≠ f a) : ((l ++ [a]).map f).Nodup := by
  rw [List.map_append]
  refine nodup_snoc h fun hx => ?_
  obtain ⟨e, he, hfe⟩ := List.mem_map.1 hx
  exact ha e he hfe

theorem raiseLoop_keys_nodup (nameOf : Pin → Nat) (ps : List Pin) (m : List (Nat × Pin))
    (h : KeysNodup m) : KeysNodup (raiseLoop nameOf ps m).1 :=
  raiseLoop_invariant KeysNodup ps m (fun m p _ h _ hn => nodup_map_snoc Prod.fst m (nameOf p, p) h hn) h

theorem raiseLoop_pins_nodup (nameOf : Pin → Nat) (ps : List Pin) (m : List (Nat × Pin))
    (h : PinsNodup m) : PinsNodup (raiseLoop nameOf ps m).1 :=
  raiseLoop_invariant PinsNodup ps m (fun m p _ h hp _ => nodup_map_snoc Prod.snd m (nameOf p, p) h hp) h

/-- the loop ends with every scanned pin exposed, or raises at a scanned pin that is not exposed while its own name
is a key of the mapping (a genuine clash) -/
theorem raiseLoop_out_cases (nameOf : Pin → Nat) (ps : List Pin) (m : List (Nat × Pin)) :
    ((raiseLoop nameOf ps m).2 = .ok ∧ ∀ p ∈ ps, ∃ e ∈ (raiseLoop nameOf ps m).1, e.2 = p) ∨
    ((raiseLoop nameOf ps m).2 = .exception ∧
      ∃ p ∈ ps, ¬ (∃ e ∈ (raiseLoop nameOf ps m).1, e.2 = p) ∧ ∃ e ∈ (raiseLoop nameOf ps m).1, e.1 = nameOf p) := by
  fun_induction raiseLoop nameOf ps m with
  | case1 m => exact Or.inl ⟨rfl, fun _ h => nomatch h⟩
  | case2 p ps m h ih =>
    obtain ⟨e, he, hep⟩ := List.mem_map.1 ((any_key _ _ _).1 h)
    rcases ih with ⟨hok, hall⟩ | ⟨hex, q, hq, hc⟩
    · exact .inl ⟨hok, List.forall_mem_cons.2 ⟨⟨e, raiseLoop_keeps nameOf ps m e he, hep⟩, hall⟩⟩
    · exact .inr ⟨hex, q, List.mem_cons_of_mem _ hq, hc⟩
  | case3 p ps m h1 h2 =>
    exact Or.inr ⟨rfl, p, List.mem_cons_self, fun h => h1 ((any_key _ _ _).2 (List.mem_map.2 h)),
      List.mem_map.1 ((any_key _ _ _).1 h2)⟩
  | case4 p ps m _ _ ih =>
    have hp := raiseLoop_keeps nameOf ps (m ++ [(nameOf p, p)]) _ (List.mem_append_right m List.mem_cons_self)
    rcases ih with ⟨hok, hall⟩ | ⟨hex, q, hq, hc⟩
    · exact .inl ⟨hok, List.forall_mem_cons.2 ⟨⟨_, hp, rfl⟩, hall⟩⟩
    · exact .inr ⟨hex, q, List.mem_cons_of_mem _ hq, hc⟩

theorem raiseLoop_ok_covers (nameOf : Pin → Nat) (ps : List Pin) (m : List (Nat × Pin))
    (h : (raiseLoop nameOf ps m).2 = .ok) : ∀ p ∈ ps, ∃ e ∈ (raiseLoop nameOf ps m).1, e.2 = p := by
  rcases raiseLoop_out_cases nameOf ps m with h' | h'
  · exact h'.2
  · rw [h'.1] at h; cases h

theorem raiseLoop_not_valueError (nameOf : Pin → Nat) (ps : List Pin) (m : List (Nat × Pin)) :
    (raiseLoop nameOf ps m).2 ≠ .valueError := by
  rcases raiseLoop_out_cases nameOf ps m with h | h <;> rw [h.1] <;> exact Out.noConfusion

theorem raiseLoop_exception_iff_clash (nameOf : Pin → Nat) (ps : List Pin) (m : List (Nat × Pin)) :
    (raiseLoop nameOf ps m).2 = .exception ↔
      ∃ p ∈ ps, ¬ (∃ e ∈ (raiseLoop nameOf ps m).1, e.2 = p) ∧ ∃ e ∈ (raiseLoop nameOf ps m).1, e.1 = nameOf p := by
  rcases raiseLoop_out_cases nameOf ps m with h | h
  · rw [h.1]
    exact ⟨fun e => Out.noConfusion e, fun ⟨p, hp, hne, _⟩ => absurd (h.2 p hp) hne⟩
  · exact ⟨fun _ => h.2, fun _ => h.1⟩

/-- `raiseLoop_exception_iff_clash` stated under the invariant `KeysNodup m`, which it does not use -/
theorem raiseLoop_exception_iff (nameOf : Pin → Nat) (ps : List Pin) (m : List (Nat × Pin)) (_hk : KeysNodup m) :
    (raiseLoop nameOf ps m).2 = .exception ↔
      ∃ p ∈ ps, ¬ (∃ e ∈ (raiseLoop nameOf ps m).1, e.2 = p) ∧ ∃ e ∈ (raiseLoop nameOf ps m).1, e.1 = nameOf p :=
  raiseLoop_exception_iff_clash nameOf ps m

theorem raiseLoop_never_rebinds (nameOf : Pin → Nat) (ps : List Pin) (m : List (Nat × Pin)) (hk : KeysNodup m) :
    ∀ n p, (n, p) ∈ m → ∀ q, (n, q) ∈ (raiseLoop nameOf ps m).1 → q = p := by
  intro n p hp q hq
  exact congrArg Prod.snd (inj_of_nodup_map Prod.fst _ (raiseLoop_keys_nodup nameOf ps m hk) (n, q) (n, p) hq
    (raiseLoop_keeps nameOf ps m _ hp) rfl)

/-- a pin's own name is its pin id: pins of different structures share names -/
def exName : Pin → Nat := fun p => p.2

/-- two structures; name 1 was mapped by hand to pin (0,0); the free pin (0,1) has 1 as its own name -/
def exClash : W :=
  { heap := [], structs := [0, 1], conns := [], clist := [],
    free := [(0, 2), (0, 0), (0, 1), (1, 3)], mapping := [(1, (0, 0))] }

/-- raise-all is rejected; the hand mapping is intact; the entry written before the clash stays; the pin after the
clash is not reached -/
example : raiseAll exName exClash = ({ exClash with mapping := [(1, (0, 0)), (2, (0, 2))] }, .exception) := by decide
example : (raiseAll exName exClash).2 = .exception ∧ (1, (0, 0)) ∈ (raiseAll exName exClash).1.mapping ∧
    ¬ (1, (0, 1)) ∈ (raiseAll exName exClash).1.mapping := by decide
example : KeysNodup exClash.mapping := by unfold KeysNodup; decide

/-- the same state with the hand-made name out of the way: raise-all succeeds and exposes every free pin -/
def exFine : W := { exClash with mapping := [(7, (0, 0))] }

example : raiseAll exName exFine =
    ({ exFine with mapping := [(7, (0, 0)), (2, (0, 2)), (1, (0, 1)), (3, (1, 3))] }, .ok) := by decide
example : (raiseAll exName exFine).2 = .ok ∧ (7, (0, 0)) ∈ (raiseAll exName exFine).1.mapping := by decide

/-- two free pins of different structures with the same own name: the second one is rejected -/
example : (raiseLoop exName [(0, 5), (1, 5)] []) = ([(5, (0, 5))], .exception) := by decide

end Wiring
