import LekkerVerif.Model.Params

/-! List lemmas on tables with distinct keys, then the look-up and key lemmas for `Dict`.  The proofs about `renameFixed`,
`solverParams`, `registerDefaults` go through these and do not unfold `get?`, `set` or `overlay` again. -/

theorem nodup_snoc {α : Type} {l : List α} {a : α} (h : l.Nodup) (ha : a ∉ l) : (l ++ [a]).Nodup :=
  List.nodup_append.2 ⟨h, List.nodup_cons.2 ⟨List.not_mem_nil, List.nodup_nil⟩,
    fun _ hx _ hy e => ha (List.mem_singleton.1 hy ▸ e ▸ hx)⟩

theorem inj_of_nodup_map {α β : Type} (f : α → β) (l : List α) (nd : (l.map f).Nodup) (a b : α)
    (ha : a ∈ l) (hb : b ∈ l) (h : f a = f b) : a = b :=
  have pw := List.pairwise_map.1 nd
  List.Pairwise.forall_of_forall_of_flip (R := fun a b => f a = f b → a = b) (fun _ _ _ => rfl)
    (pw.imp fun ne e => absurd e ne) (pw.imp fun ne e => absurd e.symm ne) ha hb h

theorem find?_key_iff {α β : Type} [BEq β] [LawfulBEq β] (f : α → β) (l : List α) (nd : (l.map f).Nodup) (b : β) (a : α) :
    l.find? (fun e => f e == b) = some a ↔ a ∈ l ∧ f a = b := by
  constructor
  · intro h
    exact ⟨List.mem_of_find?_eq_some h, by simpa using List.find?_some h⟩
  · rintro ⟨hmem, hb⟩
    cases hf : l.find? (fun e => f e == b) with
    | none => exact absurd (by simpa using hb) (List.find?_eq_none.1 hf a hmem)
    | some a' =>
      have h2 : f a' = b := by simpa using List.find?_some hf
      rw [inj_of_nodup_map f l nd a' a (List.mem_of_find?_eq_some hf) hmem (h2.trans hb.symm)]

theorem mem_of_find?_key {α β : Type} [BEq α] [LawfulBEq α] {l : List (α × β)} {k : α} {v : β}
    (h : (l.find? (·.1 == k)).map (·.2) = some v) : (k, v) ∈ l := by
  obtain ⟨e, he, rfl⟩ := Option.map_eq_some_iff.1 h
  obtain rfl : e.1 = k := by simpa using List.find?_some he
  exact List.mem_of_find?_eq_some he

theorem find?_key_none {α β : Type} [BEq β] [LawfulBEq β] (f : α → β) (l : List α) (b : β) :
    l.find? (fun e => f e == b) = none ↔ b ∉ l.map f := by
  simp only [List.find?_eq_none, List.mem_map, beq_iff_eq, not_exists, not_and]

theorem any_key {α β : Type} [BEq β] [LawfulBEq β] (f : α → β) (l : List α) (b : β) :
    l.any (fun e => f e == b) = true ↔ b ∈ l.map f := by
  simp only [List.any_eq_true, List.mem_map, beq_iff_eq]

theorem filterMap_map_sublist {α β γ : Type} (g : α → Option β) (f : β → γ) (h : α → γ)
    (hg : ∀ a b, g a = some b → f b = h a) (l : List α) : ((l.filterMap g).map f).Sublist (l.map h) := by
  induction l with
  | nil => exact .slnil
  | cons a t ih =>
    rw [List.filterMap_cons]
    cases hb : g a with
    | none => exact ih.cons _
    | some b => rw [List.map_cons, List.map_cons, hg a b hb]; exact ih.cons_cons _

namespace Dict
variable {V : Type}

theorem get?_cons (a : String × V) (t : List (String × V)) (k : String) :
    (Dict.mk (a :: t)).get? k = if a.1 = k then some a.2 else (Dict.mk t).get? k := by
  unfold get?
  by_cases h : a.1 = k <;> simp [h]

theorem get?_append (a b : List (String × V)) (k : String) :
    (Dict.mk (a ++ b)).get? k = ((Dict.mk a).get? k).or ((Dict.mk b).get? k) := by
  induction a with
  | nil => rfl
  | cons e a ih => rw [List.cons_append, get?_cons, get?_cons, ih]; split <;> rfl

theorem get?_isSome (d : Dict V) (k : String) : (d.get? k).isSome = true ↔ k ∈ d.keys := by
  rw [get?, Option.isSome_map, List.find?_isSome, ← List.any_eq_true]
  exact any_key Prod.fst d.kv k

theorem get?_eq_none (d : Dict V) (k : String) : d.get? k = none ↔ k ∉ d.keys := by
  rw [← get?_isSome]; cases d.get? k <;> simp

theorem hasKey_iff (d : Dict V) (k : String) : d.hasKey k = true ↔ k ∈ d.keys :=
  any_key Prod.fst d.kv k

theorem mem_of_get? (d : Dict V) (k : String) (v : V) (h : d.get? k = some v) : (k, v) ∈ d.kv :=
  mem_of_find?_key h

theorem get?_of_mem (d : Dict V) (hk : d.keys.Nodup) (k : String) (v : V) (h : (k, v) ∈ d.kv) : d.get? k = some v := by
  unfold get?
  rw [(find?_key_iff Prod.fst d.kv hk k (k, v)).2 ⟨h, rfl⟩]; rfl

theorem get?_filter (l : List (String × V)) (p : String → Bool) (k : String) :
    (Dict.mk (l.filter fun e => p e.1)).get? k = if p k then (Dict.mk l).get? k else none := by
  induction l with
  | nil => simp [get?]
  | cons e l ih =>
    rw [List.filter_cons]
    by_cases he : e.1 = k
    · subst he; cases hp : p e.1 <;> simp [get?_cons, ih, hp]
    · cases p e.1 <;> simp [get?_cons, ih, he]

theorem keys_set (d : Dict V) (k : String) (v : V) :
    (d.set k v).keys = if k ∈ d.keys then d.keys else d.keys ++ [k] := by
  unfold set
  simp only [hasKey_iff]
  split
  · unfold keys
    rw [List.map_map]
    apply List.map_congr_left
    intro e _
    by_cases he : e.1 = k <;> simp [he]
  · simp [keys]

theorem get?_set (d : Dict V) (k : String) (v : V) (x : String) :
    (d.set k v).get? x = if x = k then some v else d.get? x := by
  unfold set
  split
  · rename_i hk
    -- replacing in place does not move the first entry with key `x`
    have : ∀ l : List (String × V), (Dict.mk (l.map fun e => if e.1 == k then (k, v) else e)).get? x =
        if x = k then ((Dict.mk l).get? k).map (fun _ => v) else (Dict.mk l).get? x := by
      intro l
      induction l with
      | nil => simp [get?]
      | cons e l ih =>
        rw [List.map_cons, get?_cons, ih, get?_cons, get?_cons]
        by_cases hx : x = k
        · subst hx; by_cases he : e.1 = x <;> simp [he]
        · by_cases he : e.1 = k <;> simp [he, hx, Ne.symm hx]
    rw [this]
    rw [hasKey_iff, ← get?_isSome] at hk
    cases hg : d.get? k with
    | none => simp [hg] at hk
    | some _ => rfl
  · rename_i hk
    rw [hasKey_iff, ← get?_eq_none] at hk
    rw [get?_append, get?_cons]
    by_cases hx : x = k
    · subst hx; simp [hk]
    · simp [hx, Ne.symm hx, get?]

/-- what Python's `dict.update` with the pairs `l` writes under `x`: the value of the last pair with key `x` -/
def lastOf (l : List (String × V)) (x : String) : Option V := (l.reverse.find? (·.1 == x)).map (·.2)

theorem lastOf_cons (a : String × V) (t : List (String × V)) (x : String) :
    lastOf (a :: t) x = (lastOf t x).or (if a.1 = x then some a.2 else none) := by
  rw [show lastOf (a :: t) x = (Dict.mk (t.reverse ++ [a])).get? x by unfold lastOf; rw [List.reverse_cons]; rfl,
    get?_append, get?_cons]; rfl

theorem get?_overlay (d e : Dict V) (x : String) :
    (d.overlay e).get? x = (lastOf e.kv x).or (d.get? x) := by
  unfold overlay
  induction e.kv generalizing d with
  | nil => simp [lastOf]
  | cons a t ih =>
    rw [List.foldl_cons, ih, lastOf_cons, get?_set, Option.or_assoc]
    congr 1
    by_cases h : a.1 = x
    · subst h; simp
    · simp [h, Ne.symm h]

theorem mem_keys_set (d : Dict V) (k : String) (v : V) (x : String) :
    x ∈ (d.set k v).keys ↔ x ∈ d.keys ∨ x = k := by
  rw [keys_set]
  split
  · rename_i hk; exact ⟨Or.inl, fun h => h.elim id (fun e => e ▸ hk)⟩
  · simp

theorem mem_keys_overlay (d e : Dict V) (x : String) :
    x ∈ (d.overlay e).keys ↔ x ∈ d.keys ∨ x ∈ e.keys := by
  unfold overlay
  rw [show e.keys = e.kv.map (·.1) from rfl]
  induction e.kv generalizing d with
  | nil => simp
  | cons a t ih => rw [List.foldl_cons, ih, mem_keys_set, List.map_cons, List.mem_cons, or_assoc]

theorem overlay_keys_nodup (d e : Dict V) (h : d.keys.Nodup) : (d.overlay e).keys.Nodup := by
  unfold overlay
  induction e.kv generalizing d with
  | nil => exact h
  | cons a t ih =>
    apply ih
    rw [keys_set]
    split
    · exact h
    · rename_i hk
      exact nodup_snoc h hk

theorem lastOf_eq_get?_of_nodup (l : List (String × V)) (h : (l.map (·.1)).Nodup) (x : String) :
    lastOf l x = (Dict.mk l).get? x := by
  have hk : (Dict.mk l.reverse).keys = (Dict.mk l).keys.reverse := List.map_reverse
  have hr : (Dict.mk l.reverse).keys.Nodup := by rw [hk]; exact (List.reverse_perm _).nodup_iff.2 h
  cases hg : (Dict.mk l).get? x with
  | none =>
    refine (get?_eq_none (Dict.mk l.reverse) x).2 ?_
    rw [hk, List.mem_reverse]
    exact (get?_eq_none _ x).1 hg
  | some v => exact get?_of_mem _ hr x v (List.mem_reverse.2 (mem_of_get? _ x v hg))

end Dict

theorem solverParams_get? {V : Type} (defaults args derived : Dict V) (x : String) :
    (solverParams defaults args derived).get? x =
      ((Dict.lastOf derived.kv x).or (Dict.lastOf args.kv x)).or (Dict.lastOf defaults.kv x) := by
  unfold solverParams
  rw [Dict.get?_overlay, Dict.get?_overlay, Dict.get?_overlay]
  simp [Dict.get?, Option.or_assoc]

/-- with nothing derived by `add_param`: the incoming value, else the solver's own default -/
theorem solverParams_get?_nil {V : Type} (defaults args : Dict V) (x : String) :
    (solverParams defaults args ⟨[]⟩).get? x = (Dict.lastOf args.kv x).or (Dict.lastOf defaults.kv x) := by
  rw [solverParams_get?]; rfl

theorem solverParams_keys_nodup {V : Type} (defaults args derived : Dict V) : (solverParams defaults args derived).keys.Nodup :=
  Dict.overlay_keys_nodup _ _ (Dict.overlay_keys_nodup _ _ (Dict.overlay_keys_nodup _ _ List.nodup_nil))

theorem solverParams_covers {V : Type} (defs args : Dict V) (x : String) (h : x ∈ defs.keys) :
    ((solverParams defs args ⟨[]⟩).get? x).isSome = true := by
  apply (Dict.get?_isSome _ x).2
  unfold solverParams
  rw [Dict.mem_keys_overlay, Dict.mem_keys_overlay, Dict.mem_keys_overlay]
  exact Or.inl (Or.inl (Or.inr h))

/-- the incoming dictionary wins over the solver's own defaults -/
theorem solverParams_get_of_some {V : Type} (defs args : Dict V) (hk : args.keys.Nodup) (x : String)
    (h : (args.get? x).isSome = true) : (solverParams defs args ⟨[]⟩).get? x = args.get? x := by
  rw [solverParams_get?_nil, Dict.lastOf_eq_get?_of_nodup args.kv hk x]
  cases hg : args.get? x with
  | none => rw [hg] at h; cases h
  | some v => rfl
