import LekkerVerif.Core.RefineNet
import LekkerVerif.Core.Subst

/-! Existence half of C01: for every excitation of the boundary pins there is a solution.  Every live structure carries
`NetD.Loc` (each boundary excitation extends to a solution of the sub-network of its members); `join` preserves it by
gluing the two local solutions along the interface waves `star_complete` provides (`LocalSol.glue`, `join_loc`). -/

open Matrix

theorem exists_extend {P F : Type} [DecidableEq P] (keys : List P) (hnd : keys.Nodup) (vals : Fin keys.length → F) (u : P → F) :
    ∃ v : P → F, (∀ i : Fin keys.length, v keys[i] = vals i) ∧ ∀ p, p ∉ keys → v p = u p := by
  refine ⟨fun p => if h : p ∈ keys then vals ⟨keys.idxOf p, List.idxOf_lt_length_iff.2 h⟩ else u p,
    fun i => ?_, fun p hp => dif_neg hp⟩
  exact (dif_pos (List.getElem_mem i.2)).trans (congrArg vals (Fin.ext (hnd.idxOf_getElem i.1 i.2)))

section blocks
variable {F : Type*} [Field F] {P : Type*} [DecidableEq P]

theorem eqn_blocks (pins kept : List P) {κ : Type*} [Fintype κ] (conn : List P) (S : P → P → F)
    (hperm : pins.Perm (kept ++ conn)) (a b : P → F) (e : Eqn pins S a b) :
    ∀ p ∈ pins, b p = (∑ j : Fin kept.length, S p kept[j] * a kept[j]) + ∑ j : Fin conn.length, S p conn[j] * a conn[j] := by
  intro p hp
  rw [e p hp, rowSum_perm hperm, rowSum_append]
  exact congrArg₂ _ (Fin.sum_univ_fun_getElem kept fun q => S p q * a q).symm
    (Fin.sum_univ_fun_getElem conn fun q => S p q * a q).symm

end blocks

namespace NetD
variable {F : Type} [Field F] [DecidableEq F]
open Solve

/-- solution of the sub-network spanned by the base structures with ids in `M` -/
structure LocalSol (net : NetD F) (M : List Nat) (a b : PinRef → F) : Prop where
  comp : ∀ s ∈ net.initial, s.id ∈ M → Eqn s.pins s.sem a b
  link : ∀ l ∈ net.links, l.1.1 ∈ M → l.2.1 ∈ M → a l.1 = b l.2 ∧ a l.2 = b l.1

theorem LocalSol.mono {net : NetD F} {M M' : List Nat} {a b : PinRef → F} (h : net.LocalSol M' a b)
    (hsub : ∀ k ∈ M, k ∈ M') : net.LocalSol M a b :=
  ⟨fun s hs hk => h.comp s hs (hsub _ hk), fun l hl h1 h2 => h.link l hl (hsub _ h1) (hsub _ h2)⟩

structure Loc (net : NetD F) (s : St F) : Prop where
  nodup : s.pins.Nodup
  connL : ∀ l ∈ s.conn, net.Lnk l.1 l.2
  goodL : ∀ a b, net.LocalSol (St.membersOf s) a b → Eqn s.pins s.sem a b
  real  : ∀ u : PinRef → F, ∃ a b, net.LocalSol (St.membersOf s) a b ∧ ∀ p ∈ s.pins, a p = u p

open St

theorem LocalSol.glue {net : NetD F} {M₁ M₂ : List Nat} {a₁ b₁ a₂ b₂ : PinRef → F}
    (h₁ : net.LocalSol M₁ a₁ b₁) (h₂ : net.LocalSol M₂ a₂ b₂) (hdisj : ∀ k, k ∈ M₁ → k ∈ M₂ → False)
    (hcross : ∀ p q, net.Lnk p q → p.1 ∈ M₁ → q.1 ∈ M₂ → a₁ p = b₂ q ∧ a₂ q = b₁ p) :
    net.LocalSol (M₁ ++ M₂) (fun p => if p.1 ∈ M₁ then a₁ p else a₂ p) (fun p => if p.1 ∈ M₁ then b₁ p else b₂ p) := by
  have in₂ {k} (hk : k ∈ M₂) : k ∉ M₁ := fun h => hdisj k h hk
  refine ⟨fun s0 hs0 hk p hp => ?_, fun l hl h1 h2 => ?_⟩
  · have own := initial_owner net s0 hs0
    rcases List.mem_append.1 hk with hk | hk
    · simp only [own p hp, hk, if_true]
      exact (h₁.comp s0 hs0 hk p hp).trans (rowSum_congr _ _ _ _ _ fun q hq => by simp only [own q hq, hk, if_true])
    · simp only [own p hp, in₂ hk, if_false]
      exact (h₂.comp s0 hs0 hk p hp).trans (rowSum_congr _ _ _ _ _ fun q hq => by simp only [own q hq, in₂ hk, if_false])
  · rcases List.mem_append.1 h1 with h1 | h1 <;> rcases List.mem_append.1 h2 with h2 | h2
    · simpa only [h1, h2, if_true] using h₁.link l hl h1 h2
    · simpa only [h1, in₂ h2, if_true, if_false] using hcross l.1 l.2 (.inl hl) h1 h2
    · simpa only [in₂ h1, h2, if_true, if_false] using (hcross l.2 l.1 (.inr hl) h2 h1).symm
    · simpa only [in₂ h1, in₂ h2, if_false] using h₂.link l hl h1 h2

theorem Loc.real_part {net : NetD F} {s : St F} (Ls : net.Loc s) {n m : ℕ} {r : Fin n → PinRef} {c : Fin m → PinRef}
    (h : s.pins.Perm (List.ofFn r ++ List.ofFn c)) (u : Fin n → F) (g : Fin m → F) :
    ∃ a b, net.LocalSol (membersOf s) a b ∧ a ∘ r = u ∧ a ∘ c = g ∧
      b ∘ r = (part s.sem r c).S21 *ᵥ u + (part s.sem r c).S22 *ᵥ g ∧
      b ∘ c = (part s.sem r c).S11 *ᵥ u + (part s.sem r c).S12 *ᵥ g := by
  obtain ⟨w, rfl, rfl⟩ := exists_waves Ls.nodup h u g
  obtain ⟨a, b, hl, hab⟩ := Ls.real w
  have ar : a ∘ r = w ∘ r := funext fun i => hab _ ((mem_of_perm h _).2 (.inl ⟨i, rfl⟩))
  have ac : a ∘ c = w ∘ c := funext fun j => hab _ ((mem_of_perm h _).2 (.inr ⟨j, rfl⟩))
  exact ⟨a, b, hl, ar, ac, ar ▸ ac ▸ (eqn_iff_part h _ _ _).1 (Ls.goodL a b hl)⟩

theorem join_loc (net : NetD F) (B : Nat) (s t c : St F) (fresh : Nat)
    (Ls : net.Loc s) (Lt : net.Loc t) (bs : Book net.Lnk B s) (bt : Book net.Lnk B t)
    (hd : Disj s t) (hm : ∀ k, k ∈ membersOf s → k ∈ membersOf t → False)
    (h : join s t fresh = .ok c) : net.Loc c := by
  obtain ⟨links, k₁, k₂, j⟩ := join_spec s t c fresh Ls.nodup Lt.nodup hd h
  have hmo := join_membersOf s t c fresh h
  have lsub := fun l hl => (linkPins_mem j.links_ok l hl).1
  refine ⟨j.nodup, fun l hl => (join_conn_sub h l hl).elim (Ls.connL l) (Lt.connL l), fun a b hw => ?_, fun u => ?_⟩
  · -- every local solution of the merged group satisfies the equations of both groups and the links between them
    rw [hmo] at hw
    refine j.eqn a b (Ls.goodL a b (hw.mono fun k => List.mem_append_left _))
      (Lt.goodL a b (hw.mono fun k => List.mem_append_right _)) fun l hl => ?_
    have hls := lsub l hl
    have o1 := List.mem_append_left (membersOf t) (bs.own _ (bs.connIn l hls))
    have o2 := List.mem_append_right (membersOf s) ((elimS bs bt j.links_ok hls).1 (List.mem_map.2 ⟨l, hl, rfl⟩))
    rcases Ls.connL l hls with hL | hL
    · exact hw.link _ hL o1 o2
    · exact (hw.link _ hL o2 o1).symm
  · -- interface waves `f`, `g` for the boundary data `u`, then a local solution on each side with them as boundary data
    obtain ⟨f, g, _, pe2, pe3, _⟩ := star_complete (ablk s k₁ links) (bblk t links k₂) j.unit (u ∘ k₁.get) (u ∘ k₂.get)
    obtain ⟨as, bs', ls, asK, asC, _, bsC⟩ := Ls.real_part j.perm₁ (u ∘ k₁.get) g
    obtain ⟨at', bt', lt, atC, atK, btC, _⟩ := Lt.real_part j.perm₂ f (u ∘ k₂.get)
    rw [← pe2] at bsC
    rw [← pe3] at btC
    -- a link between the two groups is one of `links`
    have cross : ∀ p q, net.Lnk p q → p.1 ∈ membersOf s → q.1 ∈ membersOf t → as p = bt' q ∧ at' q = bs' p := by
      intro p q hL hp hq
      obtain ⟨i, hi⟩ := List.get_of_mem (mem_links bs bt j.links_ok (bs.cross hm hL hp hq) hq)
      obtain ⟨rfl, rfl⟩ := Prod.mk.inj hi.symm
      exact ⟨(congrFun asC i).trans (congrFun btC i).symm, (congrFun atC i).trans (congrFun bsC i).symm⟩
    refine ⟨_, _, hmo ▸ ls.glue lt hm cross, fun p hp => ?_⟩
    rw [j.pins] at hp
    rcases List.mem_append.1 hp with hp | hp <;> obtain ⟨i, rfl⟩ := List.get_of_mem hp
    · have in₁ : k₁.get i ∈ s.pins := (mem_of_perm j.perm₁ _).2 (.inl ⟨i, rfl⟩)
      simp only [bs.own _ in₁, if_true]
      exact congrFun asK i
    · have in₂ : k₂.get i ∈ t.pins := (mem_of_perm j.perm₂ _).2 (.inr ⟨i, rfl⟩)
      simp only [show (k₂.get i).1 ∉ membersOf s from fun h' => hm _ h' (bt.own _ in₂), if_false]
      exact congrFun atK i

theorem loc_mkSt (net : NetD F) (wf : net.WF) (k : Nat) (c : CompD F) (hk : net.comps[k]? = some c) :
    net.Loc (net.mkSt k c) := by
  refine ⟨(good_mkSt net wf k c hk).nodup, fun l hl => ((wf.mem_conn_mkSt k c l).1 hl).1, fun a b hw => ?_, fun u => ?_⟩
  · exact hw.comp _ ((mem_initial net _).2 ⟨k, c, hk, rfl⟩) (by rw [membersOf_mkSt]; exact List.mem_singleton_self k)
  · -- any input with the outputs the component's equation dictates; the group `[k]` has no link inside
    refine ⟨u, fun p => rowSum (net.mkSt k c).pins (net.mkSt k c).sem u p, ⟨fun s0 hs0 hid => ?_, fun l hl h1 h2 => ?_⟩,
      fun p _ => rfl⟩
    · rw [membersOf_mkSt, List.mem_singleton] at hid
      obtain ⟨k', c', hk', rfl⟩ := (mem_initial net s0).1 hs0
      obtain rfl : k' = k := hid
      rw [Option.some.inj (hk'.symm.trans hk)]
      exact fun p _ => rfl
    · rw [membersOf_mkSt, List.mem_singleton] at h1 h2
      exact absurd (h1.trans h2.symm) (wf.noSelf l hl)

structure ExInv (net : NetD F) (live : List (St F)) (fresh : Nat) : Prop where
  full : FullInv net.Sol net.Lnk net.comps.length (List.range net.comps.length) live fresh
  loc : ∀ s ∈ live, net.Loc s
  keep : ∀ s0 ∈ net.initial, ∀ p ∈ s0.pins, (∀ q, ¬ net.Lnk p q) → ∃ s ∈ live, p ∈ s.pins

theorem exInv_initial (net : NetD F) (wf : net.WF) : net.ExInv net.initial net.comps.length :=
  ⟨fullInv_initial net wf, forall_initial.2 (loc_mkSt net wf), fun s0 hs0 _ hp _ => ⟨s0, hs0, hp⟩⟩

theorem exInv_step (net : NetD F) (sched) (live live' : List (St F)) (fresh : Nat)
    (inv : net.ExInv live fresh) (h : stepWith sched live fresh = .ok live') : net.ExInv live' (fresh + 1) := by
  have hfull := stepWith_full net.Sol net.Lnk net.comps.length (fun p q h => h.symm) _ sched live live' fresh inv.full h
  obtain ⟨src, tar, new, hsm, htm, hne, hjoin, rfl⟩ := stepWith_cases sched live live' fresh h
  have hd := inv.full.linv.disj _ hsm _ htm hne
  have lnew := join_loc net net.comps.length src tar new fresh (inv.loc _ hsm) (inv.loc _ htm)
    (inv.full.book _ hsm) (inv.full.book _ htm) hd (inv.full.mdisj _ hsm _ htm hne) hjoin
  obtain ⟨links, k₁, k₂, j⟩ := join_spec src tar new fresh (inv.loc _ hsm).nodup (inv.loc _ htm).nodup hd hjoin
  refine ⟨hfull, forall_mem_step inv.loc lnew, fun s0 hs0 p hp hfree => ?_⟩
  -- a free pin is no end of a link, so a merge keeps it
  obtain ⟨s, hs, hps⟩ := inv.keep s0 hs0 p hp hfree
  rcases mem_step_of_mem inv.full.uniq hsm htm hs with rfl | rfl | hs'
  · refine ⟨new, mem_step.2 (.inr rfl), (j.mem_pins p).2 (.inl ⟨hps, fun hm => ?_⟩)⟩
    obtain ⟨l, hl, rfl⟩ := List.mem_map.1 hm
    exact hfree l.2 ((inv.loc _ hsm).connL l (St.linkPins_mem j.links_ok l hl).1)
  · refine ⟨new, mem_step.2 (.inr rfl), (j.mem_pins p).2 (.inr ⟨hps, fun hm => ?_⟩)⟩
    obtain ⟨l, hl, rfl⟩ := List.mem_map.1 hm
    exact hfree l.1 ((inv.loc _ htm).connL (l.2, l.1) (St.linkPins_mem j.links_ok l hl).2)
  · exact ⟨s, hs', hps⟩

theorem solveWith_exInv (net : NetD F) (wf : net.WF) (sched) (total : St F) (h : net.solveWith sched = .ok total) :
    ∃ fr, net.ExInv [total] fr :=
  loopWith_induct sched net.ExInv (exInv_step net sched) _ _ _ total (exInv_initial net wf) h

/-- a pin of a component that is no end of a link is a pin of the result -/
theorem solveWith_free_mem (net : NetD F) (wf : net.WF) (sched) (total : St F) (h : net.solveWith sched = .ok total) :
    ∀ s0 ∈ net.initial, ∀ p ∈ s0.pins, (∀ q, ¬ net.Lnk p q) → p ∈ total.pins := fun s0 hs0 p hp hfree => by
  obtain ⟨_, inv⟩ := solveWith_exInv net wf sched total h
  obtain ⟨s, hs, hps⟩ := inv.keep s0 hs0 p hp hfree
  rwa [List.mem_singleton.1 hs] at hps

theorem solveWith_exposed_mem (net : NetD F) (wf : net.WF) (sched) (total : St F) (h : net.solveWith sched = .ok total)
    (hE : ∀ e ∈ net.exposed, (∃ s0 ∈ net.initial, e.2 ∈ s0.pins) ∧ ∀ q, ¬ net.Lnk e.2 q) :
    ∀ e ∈ net.exposed, e.2 ∈ total.pins := fun e he =>
  let ⟨⟨s0, hs0, hp0⟩, hfree⟩ := hE e he
  solveWith_free_mem net wf sched total h s0 hs0 e.2 hp0 hfree

/-- **C01, existence half, any schedule**: when `solve` succeeds, every excitation of the exposed pins (zero at the
    unexposed free pins) is realised by a solution of the network equations. -/
theorem solveWith_complete (net : NetD F) (wf : net.WF) (sched) (total : St F)
    (h : net.solveWith sched = .ok total)
    (hE : ∀ e ∈ net.exposed, (∃ s0 ∈ net.initial, e.2 ∈ s0.pins) ∧ ∀ q, ¬ net.Lnk e.2 q) (v : PinRef → F) :
    ∃ a b, net.Sol a b ∧ (∀ e ∈ net.exposed, a e.2 = v e.2) ∧ ∀ e ∈ net.exposed, e.2 ∈ total.pins := by
  obtain ⟨fr, inv⟩ := solveWith_exInv net wf sched total h
  -- the invariant of the final one-element list speaks of `total`
  have allmem : ∀ k, k < net.comps.length → k ∈ membersOf total := fun k hk => by
    obtain ⟨s, hs, hks⟩ := inv.full.cover k (List.mem_range.2 hk)
    rwa [List.mem_singleton.1 hs] at hks
  have kept := solveWith_free_mem net wf sched total h
  have expin := solveWith_exposed_mem net wf sched total h hE
  obtain ⟨a, b, hw, hb⟩ := (inv.loc total (List.mem_singleton_self _)).real
    fun p => if p ∈ net.exposed.map (·.2) then v p else 0
  refine ⟨a, b, ⟨fun s hs => hw.comp s hs (allmem _ ((fullInv_initial net wf).linv.ids s hs)),
    fun l hl => hw.link l hl (allmem _ (wf.lnk_lt (.inl hl))) (allmem _ (wf.lnk_lt (.inr hl))),
    fun s hs p hp hfree hne => ?_⟩, fun e he => ?_, expin⟩
  · rw [hb p (kept s hs p hp hfree)]
    exact if_neg hne
  · rw [hb _ (expin e he)]
    exact if_pos (List.mem_map.2 ⟨e, he, rfl⟩)

/-- when `solve` succeeds, the returned coefficients are the solution operator of the network -/
theorem solveWith_solves (net : NetD F) (wf : net.WF) (ex : net.ExposureOK) (sched) (total : St F)
    (h : net.solveWith sched = .ok total) : net.SolvedBy total.sem :=
  ⟨solveWith_readout net wf sched total h ex.nodup (solveWith_exposed_mem net wf sched total h ex.free),
    fun v => let ⟨a, b, hs, hv, _⟩ := solveWith_complete net wf sched total h ex.free v; ⟨a, b, hs, hv⟩⟩

/-- the coefficients between exposed pins are determined by the solutions: excite one pin and read its column -/
theorem readout_unique (net : NetD F) (hn : (net.exposed.map (·.2)).Nodup) (T T' : PinRef → PinRef → F)
    (hT : ∀ a b, net.Sol a b → ∀ e ∈ net.exposed, b e.2 = (net.exposed.map fun y => T e.2 y.2 * a y.2).sum)
    (hT' : ∀ a b, net.Sol a b → ∀ e ∈ net.exposed, b e.2 = (net.exposed.map fun y => T' e.2 y.2 * a y.2).sum)
    (hex : ∀ v : PinRef → F, ∃ a b, net.Sol a b ∧ ∀ e ∈ net.exposed, a e.2 = v e.2) :
    ∀ x ∈ net.exposed, ∀ y ∈ net.exposed, T x.2 y.2 = T' x.2 y.2 := by
  intro x hx y hy
  obtain ⟨a, b, hs, hv⟩ := hex fun p => if p = y.2 then 1 else 0
  have col (U : PinRef → PinRef → F) : (net.exposed.map fun e => U x.2 e.2 * a e.2).sum = U x.2 y.2 := by
    rw [← sum_indicator _ hn (fun q => U x.2 q) (List.mem_map_of_mem hy), List.map_map]
    exact congrArg List.sum (List.map_congr_left fun e he => by rw [hv e he]; rfl)
  rw [← col T, ← col T', ← hT a b hs x hx, ← hT' a b hs x hx]

/-- **C03 for the executable model**: two schedules that both succeed give the same coefficient between every pair of
    exposed pins. -/
theorem solveWith_schedule_independent (net : NetD F) (wf : net.WF) (sched₁ sched₂) (t₁ t₂ : St F)
    (h₁ : net.solveWith sched₁ = .ok t₁) (h₂ : net.solveWith sched₂ = .ok t₂)
    (hEn : (net.exposed.map (·.2)).Nodup)
    (hE : ∀ e ∈ net.exposed, (∃ s0 ∈ net.initial, e.2 ∈ s0.pins) ∧ ∀ q, ¬ net.Lnk e.2 q) :
    ∀ x ∈ net.exposed, ∀ y ∈ net.exposed, t₁.sem x.2 y.2 = t₂.sem x.2 y.2 := by
  have s₁ := solveWith_solves net wf ⟨hEn, hE⟩ sched₁ t₁ h₁
  exact readout_unique net hEn t₁.sem t₂.sem s₁.1 (solveWith_solves net wf ⟨hEn, hE⟩ sched₂ t₂ h₂).1 s₁.2

/-- the network of a level as an abstract network: parts = components with their pin-keyed matrices -/
def toANet (net : NetD F) : ANet PinRef F :=
  { parts := net.initial.map fun s => (s.pins, s.sem), links := net.links, exposed := net.exposed.map (·.2) }

theorem toANet_sol (net : NetD F) (a b : PinRef → F) : net.toANet.Sol a b ↔ net.Sol a b :=
  ⟨fun h => ⟨fun _ hs => h.comp _ (List.mem_map_of_mem hs), h.link, fun _ hs => h.free _ (List.mem_map_of_mem hs)⟩,
    fun h => ⟨List.forall_mem_map.2 h.comp, h.link, List.forall_mem_map.2 h.free⟩⟩

theorem toANet_solvedBy (net : NetD F) (T : PinRef → PinRef → F) : net.SolvedBy T → net.toANet.SolvedBy T := by
  intro h
  refine ⟨fun a b hs => List.forall_mem_map.2 fun x hx => ?_, fun v => ?_⟩
  · exact (h.1 a b ((net.toANet_sol a b).1 hs) x hx).trans (rowSum_map _ net.exposed T a x.2).symm
  · obtain ⟨a, b, hs, hv⟩ := h.2 v
    exact ⟨a, b, (net.toANet_sol a b).2 hs, List.forall_mem_map.2 hv⟩

end NetD
