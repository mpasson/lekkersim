import LekkerVerif.Core.RefineJoin

/-! Soundness of the elimination loop for an arbitrary schedule: every live structure satisfies its component equation
for every global solution (`Good`), live structures have disjoint pins (`LiveInv`); both survive a step, so the structure
the loop ends with is `Good` (`loopWith_sound`), and so is any predicate that `join` preserves (`loopWith_preserves`). -/

namespace Solve
variable {F : Type}

theorem disjoint_step {α : Type} (f : St F → List α) {live : List (St F)} {src tar new : St F}
    (hs : src ∈ live) (ht : tar ∈ live) (hnew : ∀ x ∈ f new, x ∈ f src ∨ x ∈ f tar)
    (H : ∀ s ∈ live, ∀ t ∈ live, s.id ≠ t.id → ∀ x, x ∈ f s → x ∈ f t → False) :
    ∀ s ∈ live.filter (fun r => r.id != src.id && r.id != tar.id) ++ [new],
      ∀ t ∈ live.filter (fun r => r.id != src.id && r.id != tar.id) ++ [new], s.id ≠ t.id → ∀ x, x ∈ f s → x ∈ f t → False := by
  intro s hs' t ht' hst x hxs hxt
  rcases mem_step.1 hs' with ⟨hsl, hs1, hs2⟩ | rfl <;> rcases mem_step.1 ht' with ⟨htl, ht1, ht2⟩ | rfl
  · exact H s hsl t htl hst x hxs hxt
  · rcases hnew x hxt with h | h
    · exact H s hsl src hs hs1 x hxs h
    · exact H s hsl tar ht hs2 x hxs h
  · rcases hnew x hxs with h | h
    · exact H src hs t htl (Ne.symm ht1) x h hxt
    · exact H tar ht t htl (Ne.symm ht2) x h hxt
  · exact hst rfl

theorem forall_mem_step {P : St F → Prop} {live : List (St F)} {src tar new : St F}
    (H : ∀ s ∈ live, P s) (hnew : P new) :
    ∀ s ∈ live.filter (fun r => r.id != src.id && r.id != tar.id) ++ [new], P s := by
  intro s hs
  rcases mem_step.1 hs with ⟨hs, _⟩ | rfl
  exacts [H s hs, hnew]

theorem mem_step_of_mem {live : List (St F)} {src tar new s : St F}
    (uniq : ∀ s ∈ live, ∀ t ∈ live, s.id = t.id → s = t) (hsrc : src ∈ live) (htar : tar ∈ live) (hs : s ∈ live) :
    s = src ∨ s = tar ∨ s ∈ live.filter (fun r => r.id != src.id && r.id != tar.id) ++ [new] := by
  by_cases h1 : s.id = src.id
  · exact .inl (uniq _ hs _ hsrc h1)
  · by_cases h2 : s.id = tar.id
    · exact .inr (.inl (uniq _ hs _ htar h2))
    · exact .inr (.inr (mem_step.2 (.inl ⟨hs, h1, h2⟩)))

variable [Field F] [DecidableEq F]

/-- `W a b` : "(a, b) is a global solution of the network equations" — kept abstract -/
structure Good (W : (PinRef → F) → (PinRef → F) → Prop) (s : St F) : Prop where
  nodup : s.pins.Nodup
  eqn : ∀ a b, W a b → Eqn s.pins s.sem a b
  conn : ∀ a b, W a b → ∀ l ∈ s.conn, a l.1 = b l.2 ∧ a l.2 = b l.1

def Disj (s t : St F) : Prop := ∀ p, p ∈ s.pins → p ∈ t.pins → False

theorem Disj.symm {s t : St F} (h : Disj s t) : Disj t s := fun p hp hq => h p hq hp

/-- `{**self.conn_dict, **st.conn_dict}` only contains entries of the two dictionaries -/
theorem merged_sub (xs acc : List (PinRef × PinRef)) :
    ∀ l ∈ xs.foldl (fun acc kv =>
        if acc.any (·.1 == kv.1) then acc.map (fun e => if e.1 == kv.1 then kv else e) else acc ++ [kv]) acc,
      l ∈ acc ∨ l ∈ xs := by
  induction xs generalizing acc with
  | nil => exact fun l hl => .inl hl
  | cons x xs ih =>
    intro l hl
    refine (ih _ l hl).elim (fun h => ?_) fun h => .inr (List.mem_cons_of_mem _ h)
    beta_reduce at h
    split at h
    · obtain ⟨e, he, rfl⟩ := List.mem_map.1 h
      split
      exacts [.inr List.mem_cons_self, .inl he]
    · exact (List.mem_append.1 h).imp_right fun h => List.mem_cons.2 (.inl (List.mem_singleton.1 h))

theorem join_eq_build {s t c : St F} {n : Nat} (h : St.join s t n = .ok c) :
    ∃ C addPins, c = St.build s t n C addPins := by
  obtain ⟨_, _, _, _, _, _, _, _, _, _, C, _, addPins, _, hc⟩ := St.join_ok_iff.1 h
  exact ⟨C, addPins, hc⟩

theorem join_id (s t c : St F) (newId : Nat) (h : St.join s t newId = .ok c) : c.id = newId := by
  obtain ⟨_, _, rfl⟩ := join_eq_build h
  rfl

/-- the composite carries the fresh id, above all live ids -/
theorem join_id_ne {r s t c : St F} {fresh : Nat} (hr : r.id < fresh) (h : St.join s t fresh = .ok c) : r.id ≠ c.id :=
  join_id s t c fresh h ▸ Nat.ne_of_lt hr

theorem join_conn_sub {s t c : St F} {n : Nat} (h : St.join s t n = .ok c) :
    ∀ l ∈ c.conn, l ∈ s.conn ∨ l ∈ t.conn := by
  obtain ⟨_, _, rfl⟩ := join_eq_build h
  exact fun l hl => merged_sub _ _ l (List.mem_of_mem_filter hl)

theorem join_good (W : (PinRef → F) → (PinRef → F) → Prop) (s t c : St F) (newId : Nat)
    (hs : Good W s) (ht : Good W t) (hd : Disj s t) (h : St.join s t newId = .ok c) :
    Good W c ∧ ∀ p ∈ c.pins, p ∈ s.pins ∨ p ∈ t.pins := by
  obtain ⟨links, k₁, k₂, j⟩ := St.join_spec s t c newId hs.nodup ht.nodup hd h
  refine ⟨⟨j.nodup, fun a b hw => ?_, fun a b hw l hl => ?_⟩, fun p hp => ((j.mem_pins p).1 hp).imp And.left And.left⟩
  · exact j.eqn a b (hs.eqn a b hw) (ht.eqn a b hw) fun l hl => hs.conn a b hw l (St.linkPins_mem j.links_ok l hl).1
  · exact (join_conn_sub h l hl).elim (hs.conn a b hw l) (ht.conn a b hw l)

structure LiveInv (W : (PinRef → F) → (PinRef → F) → Prop) (live : List (St F)) (fresh : Nat) : Prop where
  good : ∀ s ∈ live, Good W s
  disj : ∀ s ∈ live, ∀ t ∈ live, s.id ≠ t.id → Disj s t
  ids : ∀ s ∈ live, s.id < fresh

theorem stepWith_inv (W : (PinRef → F) → (PinRef → F) → Prop) (sched) (live live' : List (St F)) (fresh : Nat)
    (inv : LiveInv W live fresh) (h : stepWith sched live fresh = .ok live') : LiveInv W live' (fresh + 1) := by
  obtain ⟨src, tar, new, hsm, htm, hne, hjoin, rfl⟩ := stepWith_cases sched live live' fresh h
  obtain ⟨gnew, subnew⟩ := join_good W src tar new fresh (inv.good _ hsm) (inv.good _ htm)
    (inv.disj _ hsm _ htm hne) hjoin
  exact ⟨forall_mem_step inv.good gnew, disjoint_step St.pins hsm htm subnew inv.disj,
    forall_mem_step (fun s hs => Nat.lt_succ_of_lt (inv.ids s hs)) (join_id src tar new fresh hjoin ▸ Nat.lt_succ_self _)⟩

theorem loopWith_sound (W : (PinRef → F) → (PinRef → F) → Prop) (sched) :
    ∀ (fuel : Nat) (live : List (St F)) (fresh : Nat) (total : St F),
      LiveInv W live fresh → loopWith sched fuel live fresh = .ok total → Good W total := by
  intro fuel live fresh total inv h
  obtain ⟨_, inv'⟩ := loopWith_induct sched (LiveInv W) (stepWith_inv W sched) fuel live fresh total inv h
  exact inv'.good _ (by simp)

theorem loopWith_preserves (W : (PinRef → F) → (PinRef → F) → Prop) (Pr : St F → Prop)
    (hjoin : ∀ (s t c : St F) (newId : Nat), s.pins.Nodup → t.pins.Nodup → Disj s t → Pr s → Pr t →
      St.join s t newId = .ok c → Pr c) (sched) :
    ∀ (fuel : Nat) (live : List (St F)) (fresh : Nat) (total : St F),
      LiveInv W live fresh → (∀ s ∈ live, Pr s) → loopWith sched fuel live fresh = .ok total → Pr total := by
  intro fuel live fresh total inv hp h
  obtain ⟨_, _, q⟩ := loopWith_induct sched (fun live fresh => LiveInv W live fresh ∧ ∀ s ∈ live, Pr s)
    (fun live live' fresh ⟨inv, hp⟩ hstep => ⟨stepWith_inv W sched live live' fresh inv hstep, by
      obtain ⟨src, tar, new, hsrc, htar, hne, hj, rfl⟩ := stepWith_cases sched live live' fresh hstep
      exact forall_mem_step hp (hjoin src tar new fresh (inv.good src hsrc).nodup (inv.good tar htar).nodup
        (inv.disj src hsrc tar htar hne) (hp src hsrc) (hp tar htar) hj)⟩)
    fuel live fresh total ⟨inv, hp⟩ h
  exact q total (by simp)

theorem loopWith_pins (W : (PinRef → F) → (PinRef → F) → Prop) (P0 : PinRef → Prop) (sched) :
    ∀ (fuel : Nat) (live : List (St F)) (fresh : Nat) (total : St F),
      LiveInv W live fresh → (∀ s ∈ live, ∀ p ∈ s.pins, P0 p) →
      loopWith sched fuel live fresh = .ok total → ∀ p ∈ total.pins, P0 p :=
  loopWith_preserves W (fun s => ∀ p ∈ s.pins, P0 p) (fun s t c newId hs ht hd ps pt hj p hp => by
    obtain ⟨_, _, _, j⟩ := St.join_spec s t c newId hs ht hd hj
    rcases (j.mem_pins p).1 hp with h | h
    · exact ps p h.1
    · exact pt p h.1) sched

end Solve

