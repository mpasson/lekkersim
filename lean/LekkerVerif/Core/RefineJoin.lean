import LekkerVerif.Core.Refine

/-! What a successful `Structure.join` did (`St.Joined`, `St.join_spec`): the links eliminated, the pins kept, and on the
kept pins the star product of the two partitioned matrices.  Every later fact about `join` is read off this record. -/

namespace St
variable {F : Type} [Field F] [DecidableEq F]

theorem join_ok (self st c : St F) (newId : Nat) (h : join self st newId = .ok c) :
    ∃ links selfIn stOut A B C addPins,
      linkPins self st = .ok links ∧
      removeAll self.pins (links.map (·.1)) = .ok selfIn ∧
      removeAll st.pins (links.map (·.2)) = .ok stOut ∧
      self.split selfIn (links.map (·.1)) = .ok A ∧
      st.split (links.map (·.2)) stOut = .ok B ∧
      A.add? B = .ok C ∧
      removeAll (self.pins ++ st.pins) (links.map (·.1) ++ links.map (·.2)) = .ok addPins ∧
      c = build self st newId C addPins := by
  obtain ⟨links, hl, selfIn, h1, stOut, h2, A, h3, B, h4, C, h5, addPins, h6, hc⟩ := join_ok_iff.1 h
  exact ⟨links, selfIn, stOut, A, B, C, addPins, hl, h1, h2, h3, h4, h5, h6, hc⟩

/-- the first operand of the star product in a join: kept pins `kept`, connected pins the first ends of `links` -/
abbrev ablk (self : St F) (kept : List PinRef) (links : List (PinRef × PinRef)) : SM F (Fin kept.length) (Fin links.length) :=
  part self.sem kept.get (Prod.fst ∘ links.get)

/-- the second operand: connected pins the second ends of `links`, kept pins `kept` -/
abbrev bblk (st : St F) (links : List (PinRef × PinRef)) (kept : List PinRef) : SM F (Fin links.length) (Fin kept.length) :=
  part st.sem (Prod.snd ∘ links.get) kept.get

/-- `join` of `x` and `y` into `z`: `links` were eliminated, `k₁` (of `x`) and `k₂` (of `y`) are the pins kept -/
structure Joined (x y z : St F) (links : List (PinRef × PinRef)) (k₁ k₂ : List PinRef) : Prop where
  links_ok : linkPins x y = .ok links
  pins : z.pins = k₁ ++ k₂
  nodup : z.pins.Nodup
  kept₁ : k₁ = x.pins.filter (fun p => !(links.map (·.1)).contains p)
  kept₂ : k₂ = y.pins.filter (fun p => !(links.map (·.2)).contains p)
  perm₁ : x.pins.Perm (List.ofFn k₁.get ++ List.ofFn (Prod.fst ∘ links.get))
  perm₂ : y.pins.Perm (List.ofFn (Prod.snd ∘ links.get) ++ List.ofFn k₂.get)
  unit : IsUnit (1 - (ablk x k₁ links).S12 * (bblk y links k₂).S21)
  sem : part z.sem k₁.get k₂.get = (ablk x k₁ links).add (bblk y links k₂)

theorem Joined.perm {x y z : St F} {links k₁ k₂} (j : Joined x y z links k₁ k₂) :
    z.pins.Perm (List.ofFn k₁.get ++ List.ofFn k₂.get) := by
  rw [List.ofFn_get, List.ofFn_get, j.pins]

theorem Joined.mem_pins {x y z : St F} {links k₁ k₂} (j : Joined x y z links k₁ k₂) (p : PinRef) :
    p ∈ z.pins ↔ (p ∈ x.pins ∧ p ∉ links.map (·.1)) ∨ (p ∈ y.pins ∧ p ∉ links.map (·.2)) := by
  simp only [j.pins, j.kept₁, j.kept₂, List.mem_append, List.mem_filter, Bool.not_eq_eq_eq_not, Bool.not_true,
    List.contains_eq_mem, decide_eq_false_iff_not]

theorem Joined.eqn {x y z : St F} {links k₁ k₂} (j : Joined x y z links k₁ k₂) (a b : PinRef → F)
    (eA : Eqn x.pins x.sem a b) (eB : Eqn y.pins y.sem a b) (hl : ∀ l ∈ links, a l.1 = b l.2 ∧ a l.2 = b l.1) :
    Eqn z.pins z.sem a b := by
  rw [eqn_iff_part j.perm, j.sem]
  exact star_sound _ _ j.unit _ _ _ _ _ _ (pairEq_of_eqn j.perm₁ j.perm₂ a b eA eB
    ⟨funext fun i => (hl _ (List.get_mem _ i)).1, funext fun i => (hl _ (List.get_mem _ i)).2⟩)

/-- the operands of the star product in a join are partitioned matrices of the two structures, whether or not the
product then exists: `removeAll` keeps the pins that are not linked, `split` cuts along kept and linked pins -/
theorem operands_spec {self st : St F} {links : List (PinRef × PinRef)} {k₁ k₂ : List PinRef} {A B : SMat F}
    (hs : self.pins.Nodup) (ht : st.pins.Nodup)
    (h1 : removeAll self.pins (links.map (·.1)) = .ok k₁) (h2 : removeAll st.pins (links.map (·.2)) = .ok k₂)
    (h3 : self.split k₁ (links.map (·.1)) = .ok A) (h4 : st.split (links.map (·.2)) k₂ = .ok B) :
    self.pins.Perm (List.ofFn k₁.get ++ List.ofFn (Prod.fst ∘ links.get)) ∧
      st.pins.Perm (List.ofFn (Prod.snd ∘ links.get) ++ List.ofFn k₂.get) ∧
      (A.N = k₁.length ∧ A.M = links.length ∧ A.WF ∧ A.toSM _ _ = ablk self k₁ links) ∧
      B.N = links.length ∧ B.M = k₂.length ∧ B.WF ∧ B.toSM _ _ = bblk st links k₂ := by
  refine ⟨?_, ?_, ?_, ?_⟩
  · rw [List.ofFn_get, List.ofFn_comp_get]; exact removeAll_perm hs h1
  · rw [List.ofFn_get, List.ofFn_comp_get]; exact (removeAll_perm ht h2).trans List.perm_append_comm
  · rw [← List.ofFn_get k₁, ← List.ofFn_comp_get] at h3; exact split_spec self _ _ A h3
  · rw [← List.ofFn_get k₂, ← List.ofFn_comp_get] at h4; exact split_spec st _ _ B h4

theorem join_spec (self st c : St F) (newId : Nat)
    (hs : self.pins.Nodup) (ht : st.pins.Nodup) (hd : ∀ p, p ∈ self.pins → p ∈ st.pins → False)
    (h : join self st newId = .ok c) : ∃ links k₁ k₂, Joined self st c links k₁ k₂ := by
  obtain ⟨links, k₁, k₂, A, B, C, addPins, hl, h1, h2, h3, h4, h5, h6, rfl⟩ := join_ok self st c newId h
  obtain ⟨e₁, sub₁, _⟩ := removeAll_eq_filter _ _ _ hs h1
  obtain ⟨e₂, sub₂, _⟩ := removeAll_eq_filter _ _ _ ht h2
  have hnd : (self.pins ++ st.pins).Nodup := List.nodup_append.2 ⟨hs, ht, fun p hp q hq e => hd p hp (e ▸ hq)⟩
  obtain ⟨eAdd, _, _⟩ := removeAll_eq_filter _ _ _ hnd h6
  rw [filter_append_disjoint _ _ _ _ sub₁ sub₂ hd, ← e₁, ← e₂] at eAdd
  subst eAdd
  have knd : (List.ofFn k₁.get ++ List.ofFn k₂.get).Nodup := by
    rw [List.ofFn_get, List.ofFn_get, e₁, e₂, ← filter_append_disjoint _ _ _ _ sub₁ sub₂ hd]; exact hnd.filter _
  obtain ⟨p₁, p₂, ⟨aN, aM, aWF, aSM⟩, _, bM, bWF, bSM⟩ := operands_spec hs ht h1 h2 h3 h4
  obtain ⟨_, cN, cM, _, hu, cSM⟩ := SMat.add?_spec A B C _ _ _ aWF bWF aN aM bM h5
  rw [aSM, bSM] at hu cSM
  refine ⟨links, k₁, k₂, hl, rfl, by rwa [List.ofFn_get, List.ofFn_get] at knd, e₁, e₂, p₁, p₂, hu, ?_⟩
  rw [← cSM, ← build_part self st newId C _ _ knd cN cM, List.ofFn_get, List.ofFn_get]

theorem join_sound(self st c : St F) (newId : Nat)
    (hs : self.pins.Nodup) (ht : st.pins.Nodup) (hd : ∀ p, p ∈ self.pins → p ∈ st.pins → False)
    (h : join self st newId = .ok c) :
    ∃ links : List (PinRef × PinRef), linkPins self st = .ok links ∧
      c.pins = self.pins.filter (fun p => !(links.map (·.1)).contains p)
                ++ st.pins.filter (fun p => !(links.map (·.2)).contains p) ∧
      ∀ a b : PinRef → F, Eqn self.pins self.sem a b → Eqn st.pins st.sem a b →
        (∀ l ∈ links, a l.1 = b l.2 ∧ a l.2 = b l.1) → Eqn c.pins c.sem a b := by
  obtain ⟨links, k₁, k₂, j⟩ := join_spec self st c newId hs ht hd h
  exact ⟨links, j.links_ok, by rw [j.pins, j.kept₁, j.kept₂], j.eqn⟩
end St

