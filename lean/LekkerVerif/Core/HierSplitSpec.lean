import LekkerVerif.Core.HierSplit
import LekkerVerif.Core.HierSound
import LekkerVerif.Proofs.SplitLoop
import LekkerVerif.Core.Disjoint

/-! `HNet.subLevel cs links exposed g` (Core/HierSplit.lean) is the sub-solver holding the children of a level whose positions lie
in `g`; `HNet.splitLevel`, the model of `Solver.split()` on the solver's own level, takes it for every set of the union loop.
C12, one level, over every field, merge schedule and well-formed level, whatever the children are: if no link of the level
leaves `g`, the sub-solver is well formed, exposes names of the level and returns between every two of them the coefficient
the level returns, and the level has no coefficient between a name inside `g` and one outside; the sets of the union loop
are such sets (`HNet.groups_closed`).  Core/HierPruneSpec.lean applies it to the children `prune()` keeps.

One level suffices.  The children of the sub-solver are children of the level, and a child solves to the same pins and
coefficients whatever the schedules (`HNet.solveH_unique`).  The network of the level, its children solved (`NetD.toANet`),
is cut by the predicate "the pin belongs to a child of the set" (`ANet.inside`, `NetD.toANet_splits`), so the operator C01
gives for it is an operator of the inside (`ANet.inside_behaves`) and zero across (`ANet.across_zero`); the inside is the
network of the sub-solver's level, re-addressed from the child position inside the set to the child position in the level,
up to order, parts without pins and what the matrices are off their pins (`HNet.sub_inside`).  One set against the rest is
enough, so no n-ary union is needed.  On a well-formed level a set `g` matters only through the list
`positions cs.length g` (`HNet.subLevel_eq`), so the rest is proved for a list of positions. -/

open NetD Solve

namespace HNet

theorem mem_positions (n : Nat) (g : List Nat) (i : Nat) : i ∈ positions n g ↔ i < n ∧ i ∈ g := by
  unfold positions
  rw [List.mem_filter, List.mem_range, List.contains_iff_mem]

theorem positions_nodup (n : Nat) (g : List Nat) : (positions n g).Nodup :=
  List.Nodup.sublist List.filter_sublist List.nodup_range

theorem reindex_inj {ps : List Nat} {r r' : PinRef} (hr : r.1 ∈ ps) (e : reindex ps r = reindex ps r') : r = r' :=
  Prod.ext ((List.idxOf_inj hr).1 (congrArg Prod.fst e)) (show (reindex ps r).2 = (reindex ps r').2 from congrArg Prod.snd e)

theorem mem_adjOf (links : List (PinRef × PinRef)) (x y : Nat) :
    y ∈ adjOf links x ↔ ∃ l ∈ links, (l.1.1 = x ∧ l.2.1 = y) ∨ (l.2.1 = x ∧ l.1.1 = y) := by
  simp only [adjOf, List.mem_flatMap, List.mem_append, List.mem_ite_nil_right, List.mem_singleton, eq_comm (a := y)]

theorem adjOf_symm (links : List (PinRef × PinRef)) (x y : Nat) (h : y ∈ adjOf links x) : x ∈ adjOf links y := by
  obtain ⟨l, hl, h⟩ := (mem_adjOf links x y).1 h
  exact (mem_adjOf links y x).2 ⟨l, hl, h.symm.imp And.symm And.symm⟩

theorem groups_partition (n : Nat) (links : List (PinRef × PinRef)) (i : Nat) (hi : i < n) :
    (∃ g ∈ groups n links, i ∈ g) ∧ ∀ g ∈ groups n links, ∀ g' ∈ groups n links, i ∈ g → i ∈ g' → g = g' :=
  Split.components_partition (adjOf links) (adjOf_symm links) (List.range n) i (List.mem_range.2 hi)

theorem groups_closed (n : Nat) (links : List (PinRef × PinRef)) (g : List Nat) (hg : g ∈ groups n links)
    (l : PinRef × PinRef) (hl : l ∈ links) (h1 : l.1.1 < n) (h2 : l.2.1 < n) : l.1.1 ∈ g ↔ l.2.1 ∈ g := by
  have inv := Split.components_inv (adjOf links) (adjOf_symm links) (List.range n)
  -- the set of a position holds its neighbours
  have step : ∀ x y, x < n → y ∈ adjOf links x → x ∈ g → y ∈ g := by
    intro x y hx hy hin
    obtain ⟨S, hS, hxS, hadj⟩ := inv.cover x (List.mem_range.2 hx)
    rw [inv.disj g hg S hS x hin hxS]
    exact hadj y hy
  exact ⟨step _ _ h1 ((mem_adjOf links _ _).2 ⟨l, hl, Or.inl ⟨rfl, rfl⟩⟩),
    step _ _ h2 ((mem_adjOf links _ _).2 ⟨l, hl, Or.inr ⟨rfl, rfl⟩⟩)⟩

/-- C12: two children share a set of the union loop exactly when a chain of links joins them -/
theorem groups_connected (n : Nat) (links : List (PinRef × PinRef))
    (hends : ∀ l ∈ links, l.1.1 < n ∧ l.2.1 < n) (i j : Nat) (hi : i < n) :
    (∃ g ∈ groups n links, i ∈ g ∧ j ∈ g) ↔ Split.Conn (adjOf links) i j := by
  refine Split.components_spec (adjOf links) (adjOf_symm links) (List.range n) ?_ i j (List.mem_range.2 hi)
  intro x _ y hy
  obtain ⟨l, hl, h⟩ := (mem_adjOf links x y).1 hy
  rcases h with ⟨_, h2⟩ | ⟨_, h2⟩
  · rw [← h2]; exact List.mem_range.2 (hends l hl).2
  · rw [← h2]; exact List.mem_range.2 (hends l hl).1

variable {F : Type}

/-- the pieces of the sub-solver of a list `ps` of positions -/
def subCs (cs : List (HNet F)) (ps : List Nat) : List (HNet F) := ps.map fun i => cs.getD i (.node [] [] [])
def subLinks (links : List (PinRef × PinRef)) (ps : List Nat) : List (PinRef × PinRef) :=
  (links.filter fun l => ps.contains l.1.1 && ps.contains l.2.1).map fun l => (reindex ps l.1, reindex ps l.2)
def subExp (exposed : List (String × PinRef)) (ps : List Nat) : List (String × PinRef) :=
  (exposed.filter fun e => ps.contains e.2.1).map fun e => (e.1, reindex ps e.2)

variable {cs : List (HNet F)} {links : List (PinRef × PinRef)} {exposed : List (String × PinRef)} {ps : List Nat}

theorem subLevel_eq (W : Wired (IsPin cs) links exposed) (g : List Nat) :
    subLevel cs links exposed g = .node (subCs cs (positions cs.length g)) (subLinks links (positions cs.length g))
      (subExp exposed (positions cs.length g)) := by
  have hc : ∀ {r : PinRef}, IsPin cs r → g.contains r.1 = (positions cs.length g).contains r.1 := fun hr =>
    Bool.eq_iff_iff.2 (by rw [List.contains_iff_mem, List.contains_iff_mem, mem_positions, and_iff_right hr.lt])
  unfold subLevel subCs subLinks subExp
  dsimp only
  congr 2
  · exact List.filter_congr fun l hl => by rw [hc (W.endsOk l hl).1, hc (W.endsOk l hl).2]
  · exact List.filter_congr fun e he => hc (W.expOk e he)

theorem mem_filter_links {l : PinRef × PinRef} :
    l ∈ links.filter (fun l => ps.contains l.1.1 && ps.contains l.2.1) ↔ l ∈ links ∧ l.1.1 ∈ ps ∧ l.2.1 ∈ ps := by
  rw [List.mem_filter, Bool.and_eq_true, List.contains_iff_mem, List.contains_iff_mem]

theorem mem_filter_exp {e : String × PinRef} :
    e ∈ exposed.filter (fun e => ps.contains e.2.1) ↔ e ∈ exposed ∧ e.2.1 ∈ ps := by
  rw [List.mem_filter, List.contains_iff_mem]

theorem mem_subExp {x : String × PinRef} :
    x ∈ subExp exposed ps ↔ ∃ e ∈ exposed, e.2.1 ∈ ps ∧ (e.1, reindex ps e.2) = x := by
  simp only [subExp, List.mem_map, mem_filter_exp, and_assoc]

theorem subCs_idxOf (hps : ∀ i ∈ ps, i < cs.length) {i : Nat} (hi : i ∈ ps) : (subCs cs ps)[ps.idxOf i]? = cs[i]? := by
  unfold subCs
  rw [List.getElem?_map, List.getElem?_idxOf hi, Option.map_some, ← List.getElem_eq_getD (h := hps i hi),
    List.getElem?_eq_getElem (hps i hi)]

theorem WFTree.sub (w : WFTree (HNet.node cs links exposed)) (hps : ∀ i ∈ ps, i < cs.length) :
    WFTree (.node (subCs cs ps) (subLinks links ps) (subExp exposed ps)) := by
  obtain ⟨hnd, W⟩ := levelOK_iff_wired.1 w.level
  have hchild : ∀ h ∈ subCs cs ps, h ∈ cs := by
    intro h hh
    obtain ⟨i, hi, rfl⟩ := List.mem_map.1 hh
    rw [← List.getElem_eq_getD (h := hps i hi)]
    exact List.getElem_mem _
  -- the links and exposures kept point into `ps` …
  have Wps := W.sub (ok' := fun r => r.1 ∈ ps) List.filter_sublist List.filter_sublist
    (fun l hl => (mem_filter_links.1 hl).2) fun e he => (mem_filter_exp.1 he).2
  -- … where re-addressing by the position inside `ps` is injective and finds the same child
  have W' := Wps.map (ok' := IsPin (subCs cs ps)) (reindex ps) (fun r r' hr _ e => reindex_inj hr.2 e)
    (fun r r' hr _ e => (List.idxOf_inj hr.2).1 e)
    fun r ⟨⟨h, hk, hx⟩, hr⟩ => ⟨h, (subCs_idxOf hps hr).trans hk, hx⟩
  exact .node _ _ _ (fun h hh => w.child h (hchild h hh)) (levelOK_iff_wired.2 ⟨fun h hh => hnd h (hchild h hh), W'⟩)

theorem WFTree.subLevel (w : WFTree (HNet.node cs links exposed)) (g : List Nat) :
    WFTree (HNet.subLevel cs links exposed g) :=
  subLevel_eq w.wired g ▸ w.sub fun _ hi => ((mem_positions _ _ _).1 hi).1

theorem pinNames_subLevel (cs : List (HNet F)) (links : List (PinRef × PinRef)) (exposed : List (String × PinRef))
    (g : List Nat) :
    pinNames (subLevel cs links exposed g) = (exposed.filter fun e => g.contains e.2.1).map (·.1) := by
  show ((exposed.filter fun e => g.contains e.2.1).map fun e => (e.1, reindex _ e.2)).map (·.1) = _
  rw [List.map_map]; rfl

theorem subLevel_full (w : WFTree (.node cs links exposed)) (g : List Nat) (hall : ∀ i, i < cs.length → i ∈ g) :
    subLevel cs links exposed g = .node cs links exposed := by
  have W := w.wired
  have hc : ∀ i, i < cs.length → (List.range cs.length).contains i = true := fun i hi =>
    List.contains_iff_mem.2 (List.mem_range.2 hi)
  have hre : ∀ r : PinRef, IsPin cs r → reindex (List.range cs.length) r = r := fun r hr =>
    Prod.ext (List.idxOf_of_getElem? List.nodup_range (List.getElem?_range hr.lt)) rfl
  have hpos : positions cs.length g = List.range cs.length :=
    List.filter_eq_self.2 fun i hi => List.contains_iff_mem.2 (hall i (List.mem_range.1 hi))
  rw [subLevel_eq W, hpos]
  unfold subCs subLinks subExp
  rw [List.range_map_getD,
    List.filter_eq_self.2 fun l hl => Bool.and_eq_true _ _ ▸ ⟨hc _ (W.endsOk l hl).1.lt, hc _ (W.endsOk l hl).2.lt⟩,
    List.filter_eq_self.2 fun e he => hc _ (W.expOk e he).lt]
  congr 1
  · exact (List.map_congr_left fun l hl => by rw [hre l.1 (W.endsOk l hl).1, hre l.2 (W.endsOk l hl).2]; rfl).trans
      (List.map_id _)
  · exact (List.map_congr_left fun e he => by rw [hre e.2 (W.expOk e he)]; rfl).trans (List.map_id _)

end HNet

variable {F : Type} [Field F] [DecidableEq F]

theorem NetD.toANet_splits {net : NetD F} (wf : net.WF) (ex : net.ExposureOK) {g : List Nat}
    (hl : ∀ l ∈ net.links, (l.1.1 ∈ g ↔ l.2.1 ∈ g)) : ANet.Splits net.toANet fun r => g.contains r.1 := by
  refine ⟨?_, fun l hl' => ?_, fun l hl => ⟨?_, ?_⟩, ?_⟩
  · intro part hp p hpp q hq
    obtain ⟨k, c, -, rfl⟩ := mem_toANet_parts.1 hp
    rw [((mem_pins_mkSt net k c p).1 hpp).1, ((mem_pins_mkSt net k c q).1 hq).1]
  · rw [Bool.eq_iff_iff, List.contains_iff_mem, List.contains_iff_mem]
    exact hl l hl'
  · exact (pinSet_toANet net _).2 (wf.endsPins l hl _ (Or.inl rfl))
  · exact (pinSet_toANet net _).2 (wf.endsPins l hl _ (Or.inr rfl))
  · intro e he
    exact (pinSet_toANet net e).2 (mentions_pin wf ex (ANet.mentions_exposed he))

namespace HNet

/-- child position inside the set ↦ child position in the level (`reindex ps` is the way back) -/
def upRef (ps : List Nat) (r : PinRef) : PinRef := (ps.getD r.1 0, r.2)

theorem upRef_of_get {ps : List Nat} {j i : Nat} (h : ps[j]? = some i) (x : String) : upRef ps (j, x) = (i, x) := by
  show (ps.getD j 0, x) = (i, x)
  rw [List.getD_eq_getElem?_getD, h]; rfl

theorem upRef_reindex {ps : List Nat} {r : PinRef} (hr : r.1 ∈ ps) : upRef ps (reindex ps r) = r :=
  upRef_of_get (List.getElem?_idxOf hr) r.2

theorem reindex_upRef {ps : List Nat} (hn : ps.Nodup) {r : PinRef} (hr : r.1 < ps.length) : reindex ps (upRef ps r) = r := by
  rw [show r = (r.1, r.2) from rfl, upRef_of_get (List.getElem?_eq_getElem hr)]
  exact Prod.ext (hn.idxOf_getElem r.1 hr) rfl

/-- the component `c'` presents the pins and carries the coefficients of the component at position `i` of `comps` -/
def SameAt (comps : List (CompD F)) (i : Nat) (c' : CompD F) : Prop :=
  ∃ c, comps[i]? = some c ∧ c'.pins = c.pins ∧ ∀ x ∈ c.pins, ∀ y ∈ c.pins, c'.sem x y = c.sem x y

/-- the level of the sub-solver is the inside of the level: `net'` has, in the order of `ps`, the components `net` has at
the positions `ps` (the same children, maybe solved with other schedules) and the links and exposures of `net` that point
into `ps`, none of which leaves `ps`; then an operator of `net'`, read through the re-addressing, is an operator of the side
of `net` that lies in `ps` -/
theorem sub_inside {net net' : NetD F} {ps : List Nat} (hn : ps.Nodup)
    (hcl : ∀ l ∈ net.links, (l.1.1 ∈ ps ↔ l.2.1 ∈ ps)) (hR : List.Forall₂ (SameAt net.comps) ps net'.comps)
    (hL : net'.links = subLinks net.links ps) (hE : net'.exposed = subExp net.exposed ps)
    (wf' : net'.WF) (ex' : net'.ExposureOK) {T' : PinRef → PinRef → F} (hT' : net'.toANet.SolvedBy T') :
    (net.toANet.inside fun r => ps.contains r.1).SolvedBy fun q q' => T' (reindex ps q) (reindex ps q') := by
  have hg : ∀ p, net'.toANet.Mentions p → reindex ps (upRef ps p) = p := fun p hp => by
    obtain ⟨c, hc, -⟩ := mentions_pin wf' ex' hp
    exact reindex_upRef hn (hR.length_eq ▸ (List.getElem?_eq_some_iff.1 hc).1)
  -- a component of `net'` and the one it stands for give the same part, up to the re-addressing
  have hpart : ∀ {j i c' c}, ps[j]? = some i → c'.pins = c.pins → (∀ x ∈ c.pins, ∀ y ∈ c.pins, c'.sem x y = c.sem x y) →
      (net'.mkSt j c').pins.map (upRef ps) = (net.mkSt i c).pins ∧ ∀ p ∈ (net.mkSt i c).pins, ∀ q ∈ (net.mkSt i c).pins,
        (net'.mkSt j c').sem (reindex ps p) (reindex ps q) = (net.mkSt i c).sem p q := by
    intro j i c' c hj hp hs
    constructor
    · show (c'.pins.map fun n => ((j, n) : PinRef)).map (upRef ps) = c.pins.map fun n => ((i, n) : PinRef)
      rw [List.map_map, hp]
      exact List.map_congr_left fun x _ => upRef_of_get hj x
    · intro p hp' q hq'
      obtain ⟨x, hx, rfl⟩ := List.mem_map.1 hp'
      obtain ⟨y, hy, rfl⟩ := List.mem_map.1 hq'
      show (net'.mkSt j c').sem (ps.idxOf i, x) (ps.idxOf i, y) = _
      rw [List.idxOf_of_getElem? hn hj, NetD.mkSt_sem, NetD.mkSt_sem, hs x hx y hy]
  refine ANet.solvedBy_of_sameOn _ _ ?_ ?_ ?_ ?_ _ (ANet.map_solvedBy hg T' hT')
  · -- a part of the inside is a component of `net` at some `i ∈ ps`; `net'` has its like where `i` stands in `ps`
    intro part hpart' _
    obtain ⟨hpL, hany⟩ := List.mem_filter.1 hpart'
    obtain ⟨i, c, hc, rfl⟩ := mem_toANet_parts.1 hpL
    obtain ⟨q, hq, hIq⟩ := List.any_eq_true.1 hany
    have hi : i ∈ ps := ((mem_pins_mkSt net i c q).1 hq).1 ▸ List.contains_iff_mem.1 hIq
    obtain ⟨c', hc', c0, hc0, hp, hsem⟩ := hR.of_getElem?_left (List.getElem?_idxOf hi)
    obtain rfl : c0 = c := Option.some.inj (hc0.symm.trans hc)
    obtain ⟨e1, e2⟩ := hpart (List.getElem?_idxOf hi) hp hsem
    exact ⟨_, List.mem_map.2 ⟨_, mem_toANet_parts.2 ⟨_, c', hc', rfl⟩, rfl⟩, e1, e2⟩
  · -- a part of `net'` at `j` is the like of the component of `net` at `ps[j]`, which the inside keeps if it has a pin
    intro part hpart' hne
    obtain ⟨p0, hp0, rfl⟩ := List.mem_map.1 hpart'
    obtain ⟨j, c', hc', rfl⟩ := mem_toANet_parts.1 hp0
    obtain ⟨i, hj, c, hc, hp, hsem⟩ := hR.of_getElem?_right hc'
    obtain ⟨e1, e2⟩ := hpart hj hp hsem
    refine ⟨_, List.mem_filter.2 ⟨mem_toANet_parts.2 ⟨i, c, hc, rfl⟩, ?_⟩, e1.symm,
      fun p hp q hq => (e2 p (e1 ▸ hp) q (e1 ▸ hq)).symm⟩
    obtain ⟨q, hq⟩ := List.exists_mem_of_ne_nil _ (e1 ▸ hne)
    exact List.any_eq_true.2 ⟨q, hq, ((mem_pins_mkSt net i c q).1 hq).1 ▸ List.contains_iff_mem.2 (List.mem_of_getElem? hj)⟩
  · -- no link leaves `ps`, so the links kept are the links that start in `ps`, and re-addressing them twice gives them back
    intro l
    show l ∈ net'.links.map (fun l : PinRef × PinRef => (upRef ps l.1, upRef ps l.2)) ↔
      l ∈ net.links.filter fun l => ps.contains l.1.1
    have hboth : ∀ l ∈ net.links, (ps.contains l.1.1 && ps.contains l.2.1) = ps.contains l.1.1 := fun l hl =>
      Bool.eq_iff_iff.2 (by rw [Bool.and_eq_true, List.contains_iff_mem, List.contains_iff_mem, ← hcl l hl, and_self])
    rw [hL, subLinks, List.filter_congr hboth, List.map_map, List.map_congr_left (g := id), List.map_id]
    intro l0 hl0
    obtain ⟨hin, h1⟩ := List.mem_filter.1 hl0
    have h1 := List.contains_iff_mem.1 h1
    show (upRef ps (reindex ps l0.1), upRef ps (reindex ps l0.2)) = l0
    rw [upRef_reindex h1, upRef_reindex ((hcl l0 hin).1 h1)]
  · show ((net'.exposed.map (·.2)).map (upRef ps)).Perm ((net.exposed.map (·.2)).filter fun r => ps.contains r.1)
    rw [hE, subExp, List.filter_map, List.map_map, List.map_map]
    exact .of_eq (List.map_congr_left fun e he => upRef_reindex (mem_filter_exp.1 he).2)

theorem sub_behaves (s s' : List (St F) → Option (Nat × Nat)) {cs : List (HNet F)} {links : List (PinRef × PinRef)}
    {exposed : List (String × PinRef)} (w : WFTree (.node cs links exposed)) {c c' : CompD F}
    (hs : solveH s (.node cs links exposed) = .ok c) {ps : List Nat} (hn : ps.Nodup) (hps : ∀ i ∈ ps, i < cs.length)
    (hcl : ∀ l ∈ links, (l.1.1 ∈ ps ↔ l.2.1 ∈ ps))
    (hs' : solveH s' (.node (subCs cs ps) (subLinks links ps) (subExp exposed ps)) = .ok c') :
    (∀ x ∈ c'.pins, x ∈ c.pins) ∧ ∀ x ∈ c'.pins, ∀ y ∈ c'.pins, c'.sem x y = c.sem x y := by
  have w' := w.sub hps
  obtain ⟨comps, total, hF, rfl, wf, ex, hT⟩ := w.solveH_node hs
  obtain ⟨comps', total', hF', rfl, wf', ex', hT'⟩ := w'.solveH_node hs'
  -- the children of the sub-solver are children of the level, and solve to the same whatever the schedule
  have hR : List.Forall₂ (SameAt comps) ps comps' := by
    refine (List.forall₂_map_left_iff.1 hF').imp_of_mem fun i hi c'i hc' => ?_
    have hlt := hps i hi
    rw [← List.getElem_eq_getD (h := hlt)] at hc'
    obtain ⟨ci, hci, hc⟩ := hF.of_getElem?_left (List.getElem?_eq_getElem hlt)
    exact ⟨ci, hci, solveH_unique s s' (w.child _ (List.getElem_mem hlt))
      (w.level.pinsNodup _ (List.mem_map.2 ⟨_, List.getElem_mem hlt, rfl⟩)) hc hc'⟩
  have key := ANet.inside_behaves (toANet_splits wf ex hcl) ex.nodup total.sem _ (toANet_solvedBy _ _ hT)
    (sub_inside hn hcl hR rfl rfl wf' ex' (toANet_solvedBy _ _ hT'))
  constructor
  · intro x hx
    obtain ⟨x', hx', rfl⟩ := List.mem_map.1 hx
    obtain ⟨e, he, -, rfl⟩ := mem_subExp.1 hx'
    exact List.mem_map.2 ⟨e, he, rfl⟩
  · intro x hx y hy
    obtain ⟨x', hx', rfl⟩ := List.mem_map.1 hx
    obtain ⟨y', hy', rfl⟩ := List.mem_map.1 hy
    rw [extract_sem _ total' w'.level.namesNodup x' y' hx' hy']
    obtain ⟨e, he, hep, rfl⟩ := mem_subExp.1 hx'
    obtain ⟨e2, he2, he2p, rfl⟩ := mem_subExp.1 hy'
    rw [extract_sem _ total w.level.namesNodup e e2 he he2]
    exact (key e.2 (List.mem_map.2 ⟨e, he, rfl⟩) e2.2 (List.mem_map.2 ⟨e2, he2, rfl⟩) (List.contains_iff_mem.2 hep)
      (List.contains_iff_mem.2 he2p)).symm

/-- C12, a set of children no link leaves behaves like the level: `g` a set of child positions such that every link
of the level has both ends in `g` or none; the sub-solver of `g` exposes names of the level and returns, between every two
of them, the coefficient the level returns (any schedules) -/
theorem subLevel_behaves_of_closed (s s' : List (St F) → Option (Nat × Nat)) (cs : List (HNet F))
    (links : List (PinRef × PinRef)) (exposed : List (String × PinRef)) (w : WFTree (.node cs links exposed))
    (c : CompD F) (hs : solveH s (.node cs links exposed) = .ok c)
    (g : List Nat)
    (hclosed : ∀ l ∈ links, l.1.1 < cs.length → l.2.1 < cs.length → (l.1.1 ∈ g ↔ l.2.1 ∈ g))
    (c' : CompD F) (hs' : solveH s' (subLevel cs links exposed g) = .ok c') :
    (∀ x ∈ c'.pins, x ∈ c.pins) ∧ ∀ x ∈ c'.pins, ∀ y ∈ c'.pins, c'.sem x y = c.sem x y := by
  have W := w.wired
  rw [subLevel_eq W] at hs'
  refine sub_behaves s s' w hs (positions_nodup _ _) (fun i hi => ((mem_positions _ _ _).1 hi).1) (fun l hl => ?_) hs'
  obtain ⟨h1, h2⟩ := W.endsOk l hl
  rw [mem_positions, mem_positions, and_iff_right h1.lt, and_iff_right h2.lt]
  exact hclosed l hl h1.lt h2.lt

theorem level_across_zero (s : List (St F) → Option (Nat × Nat)) (cs : List (HNet F))
    (links : List (PinRef × PinRef)) (exposed : List (String × PinRef)) (w : WFTree (.node cs links exposed))
    (c : CompD F) (hs : solveH s (.node cs links exposed) = .ok c)
    (g : List Nat) (hclosed : ∀ l ∈ links, l.1.1 < cs.length → l.2.1 < cs.length → (l.1.1 ∈ g ↔ l.2.1 ∈ g))
    (e : String × PinRef) (he : e ∈ exposed) (e' : String × PinRef) (he' : e' ∈ exposed)
    (hin : e.2.1 ∈ g) (hout : e'.2.1 ∉ g) : c.sem e.1 e'.1 = 0 ∧ c.sem e'.1 e.1 = 0 := by
  obtain ⟨comps, total, hF, rfl, wf, ex, hT⟩ := w.solveH_node hs
  have hn := w.level.namesNodup
  have W := w.wired
  rw [extract_sem _ total hn e e' he he', extract_sem _ total hn e' e he' he]
  exact ANet.across_zero
    (toANet_splits wf ex fun l hl => hclosed l hl (W.endsOk l hl).1.lt (W.endsOk l hl).2.lt)
    ex.nodup total.sem (toANet_solvedBy _ _ hT)
    e.2 (List.mem_map.2 ⟨e, he, rfl⟩) e'.2 (List.mem_map.2 ⟨e', he', rfl⟩) (List.contains_iff_mem.2 hin)
    (Bool.eq_false_iff.2 fun h => hout (List.contains_iff_mem.1 h))

theorem subLevel_preserves (s s' : List (St F) → Option (Nat × Nat)) (cs : List (HNet F))
    (links : List (PinRef × PinRef)) (exposed : List (String × PinRef)) (w : WFTree (.node cs links exposed))
    (c c' : CompD F) (hs : solveH s (.node cs links exposed) = .ok c) (g : List Nat)
    (hclosed : ∀ l ∈ links, l.1.1 ∈ g ↔ l.2.1 ∈ g) (hexp : ∀ e ∈ exposed, e.2.1 ∈ g)
    (hs' : solveH s' (subLevel cs links exposed g) = .ok c') :
    c'.pins = c.pins ∧ ∀ x ∈ c.pins, ∀ y ∈ c.pins, c'.sem x y = c.sem x y := by
  have hpins : c'.pins = c.pins := by
    rw [solveH_pins s' _ c' hs', solveH_pins s _ c hs, pinNames_subLevel,
      List.filter_eq_self.2 fun e he => List.contains_iff_mem.2 (hexp e he)]
    rfl
  rw [← hpins]
  exact ⟨rfl, (subLevel_behaves_of_closed s s' cs links exposed w c hs g (fun l hl _ _ => hclosed l hl) c' hs').2⟩

end HNet
