import LekkerVerif.Core.KernelDefs

/-! The star product of two partitioned scattering matrices is the exact elimination of the shared ports.  The feedback
between the two operands is one linear system (`loop_iff`); its unique solution gives the interface waves, and
associativity, passivity and losslessness are read off the pair equations `PairEq`, not off the block formulas. -/

open Matrix

variable {F : Type*} [Field F]
variable {n k m : Type*} [Fintype n] [Fintype k] [Fintype m] [DecidableEq n] [DecidableEq k] [DecidableEq m]

/-- hand-written canonical form of `S_matrix.add` (the regenerated definition `Generated.add` is proved equal to it in `Proofs/KernelTie.lean`) -/
noncomputable def SM.add (A : SM F n k) (B : SM F k m) : SM F n m :=
  let T1 := B.S11 * (1 - A.S12 * B.S21)⁻¹
  let T2 := A.S22 * (1 - B.S21 * A.S12)⁻¹
  { S21 := A.S21 + T2 * B.S21 * A.S11
    S11 := T1 * A.S11
    S12 := B.S12 + T1 * A.S12 * B.S22
    S22 := T2 * B.S22 }

/-- each operand obeys its own matrix: `u`, `d` enter at the outer ports of `A`, `B` and `rA`, `rB` leave there; across the shared
ports `f` runs from `A` to `B` and `g` from `B` to `A` -/
def PairEq (A : SM F n k) (B : SM F k m) (u : n → F) (d : m → F) (rA : n → F) (rB : m → F) (f g : k → F) : Prop :=
  rA = A.S21 *ᵥ u + A.S22 *ᵥ g ∧ f = A.S11 *ᵥ u + A.S12 *ᵥ g ∧
  g = B.S21 *ᵥ f + B.S22 *ᵥ d ∧ rB = B.S11 *ᵥ f + B.S12 *ᵥ d

theorem isUnit_swap (X : Matrix k k F) (Y : Matrix k k F) (h : IsUnit (1 - X * Y)) : IsUnit (1 - Y * X) := by
  simpa only [Matrix.isUnit_iff_isUnit_det, Matrix.det_one_sub_mul_comm Y X] using h

/-- the feedback loop `f = p + X (q + Y f)` is the linear system `(1 - X Y) f = p + X q`, which has exactly one
solution; both uniqueness and existence of the interface waves are this -/
theorem loop_iff (X Y : Matrix k k F) (h : IsUnit (1 - X * Y)) (p q f : k → F) :
    f = p + X *ᵥ (q + Y *ᵥ f) ↔ f = (1 - X * Y)⁻¹ *ᵥ (p + X *ᵥ q) := by
  have hd := (Matrix.isUnit_iff_isUnit_det _).1 h
  have e : (1 - X * Y) *ᵥ f = p + X *ᵥ q ↔ f = p + X *ᵥ (q + Y *ᵥ f) := by
    simp only [Matrix.sub_mulVec, Matrix.one_mulVec, ← Matrix.mulVec_mulVec, sub_eq_iff_eq_add, Matrix.mulVec_add,
      add_assoc]
  rw [← e]
  constructor
  · intro hx
    simp only [← hx, Matrix.mulVec_mulVec, Matrix.nonsing_inv_mul _ hd, Matrix.one_mulVec]
  · intro hx
    simp only [hx, Matrix.mulVec_mulVec, Matrix.mul_nonsing_inv _ hd, Matrix.one_mulVec]

/-- the canonical interface waves (the right-hand sides of `star_waves`) -/
noncomputable def SM.waves (A : SM F n k) (B : SM F k m) (u : n → F) (d : m → F) : (k → F) × (k → F) :=
  ((1 - A.S12 * B.S21)⁻¹ *ᵥ (A.S11 *ᵥ u + (A.S12 * B.S22) *ᵥ d),
   (1 - B.S21 * A.S12)⁻¹ *ᵥ (B.S22 *ᵥ d + (B.S21 * A.S11) *ᵥ u))

theorem star_waves (A : SM F n k) (B : SM F k m) (h : IsUnit (1 - A.S12 * B.S21))
    (u : n → F) (d : m → F) (rA : n → F) (rB : m → F) (f g : k → F) (he : PairEq A B u d rA rB f g) :
    f = (1 - A.S12 * B.S21)⁻¹ *ᵥ (A.S11 *ᵥ u + (A.S12 * B.S22) *ᵥ d) ∧
    g = (1 - B.S21 * A.S12)⁻¹ *ᵥ (B.S22 *ᵥ d + (B.S21 * A.S11) *ᵥ u) := by
  obtain ⟨-, h2, h3, -⟩ := he
  rw [add_comm] at h3
  rw [← Matrix.mulVec_mulVec, ← Matrix.mulVec_mulVec]
  constructor
  · rw [← loop_iff _ _ h, ← h3]; exact h2
  · rw [← loop_iff _ _ (isUnit_swap _ _ h), ← h2]; exact h3

theorem star_sound (A : SM F n k) (B : SM F k m) (h : IsUnit (1 - A.S12 * B.S21))
    (u : n → F) (d : m → F) (rA : n → F) (rB : m → F) (f g : k → F)
    (he : PairEq A B u d rA rB f g) :
    rA = (A.add B).S21 *ᵥ u + (A.add B).S22 *ᵥ d ∧ rB = (A.add B).S11 *ᵥ u + (A.add B).S12 *ᵥ d := by
  obtain ⟨hf, hg⟩ := star_waves A B h u d rA rB f g he
  obtain ⟨h1, -, -, h4⟩ := he
  rw [h1, h4, hf, hg]
  simp only [SM.add, Matrix.mulVec_add, Matrix.add_mulVec, Matrix.mulVec_mulVec, Matrix.mul_assoc]
  constructor <;> abel

theorem star_complete (A : SM F n k) (B : SM F k m) (h : IsUnit (1 - A.S12 * B.S21))
    (u : n → F) (d : m → F) :
    ∃ f g, PairEq A B u d ((A.add B).S21 *ᵥ u + (A.add B).S22 *ᵥ d) ((A.add B).S11 *ᵥ u + (A.add B).S12 *ᵥ d) f g := by
  let f := (1 - A.S12 * B.S21)⁻¹ *ᵥ (A.S11 *ᵥ u + A.S12 *ᵥ B.S22 *ᵥ d)
  have h2 : f = A.S11 *ᵥ u + A.S12 *ᵥ (B.S21 *ᵥ f + B.S22 *ᵥ d) := by
    rw [add_comm (B.S21 *ᵥ f), loop_iff _ _ h]
  have pe : PairEq A B u d _ _ f _ := ⟨rfl, h2, rfl, rfl⟩
  obtain ⟨e1, e2⟩ := star_sound A B h u d _ _ f _ pe
  exact ⟨f, _, by rw [← e1, ← e2]; exact pe⟩

theorem SM.ext_of_action {X Y : SM F n m}
    (h : ∀ (u : n → F) (d : m → F),
      X.S21 *ᵥ u + X.S22 *ᵥ d = Y.S21 *ᵥ u + Y.S22 *ᵥ d ∧ X.S11 *ᵥ u + X.S12 *ᵥ d = Y.S11 *ᵥ u + Y.S12 *ᵥ d) :
    X = Y := by
  obtain ⟨X11, X22, X12, X21⟩ := X
  obtain ⟨Y11, Y22, Y12, Y21⟩ := Y
  simp only [SM.mk.injEq, Matrix.ext_iff_mulVec]
  refine ⟨fun u => ?_, fun d => ?_, fun d => ?_, fun u => ?_⟩
  · simpa only [Matrix.mulVec_zero, add_zero] using (h u 0).2
  · simpa only [Matrix.mulVec_zero, zero_add] using (h 0 d).1
  · simpa only [Matrix.mulVec_zero, zero_add] using (h 0 d).2
  · simpa only [Matrix.mulVec_zero, add_zero] using (h u 0).1

variable {l : Type*} [Fintype l] [DecidableEq l]

theorem star_assoc (A : SM F n k) (B : SM F k l) (C : SM F l m)
    (hAB : IsUnit (1 - A.S12 * B.S21)) (hABC : IsUnit (1 - (A.add B).S12 * C.S21))
    (hBC : IsUnit (1 - B.S12 * C.S21)) (hA_BC : IsUnit (1 - A.S12 * (B.add C).S21)) :
    (A.add B).add C = A.add (B.add C) := by
  apply SM.ext_of_action
  intro u d
  -- a solution of (A⋆B, C)
  obtain ⟨f2, g2, e1, e2, e3, e4⟩ := star_complete (A.add B) C hABC u d
  -- open A⋆B with inputs (u, g2): its outputs are the left-hand sides of e1, e2
  obtain ⟨f1, g1, p1, p2, p3, p4⟩ := star_complete A B hAB u g2
  -- regroup: (B, C) with inputs (f1, d)
  obtain ⟨q1, q2⟩ := star_sound B C hBC f1 d _ _ f2 g2 ⟨p3, e2.trans p4, e3, e4⟩
  -- (A, B⋆C) with inputs (u, d)
  exact star_sound A (B.add C) hA_BC u d _ _ f1 g1 ⟨e1.trans p1, p2, q1, q2⟩

/-- the reflectionless through-connection -/
def SM.through (κ : Type*) [DecidableEq κ] : SM F κ κ := { S11 := 1, S22 := 1, S12 := 0, S21 := 0 }

omit [Fintype n] [DecidableEq n] in
theorem star_through_right (A : SM F n k) : A.add (SM.through k) = A := by
  cases A
  simp [SM.add, SM.through]

theorem star_through_left (B : SM F k m) : (SM.through k).add B = B := by
  cases B
  simp [SM.add, SM.through]

/-- a partitioned matrix is reciprocal when the assembled matrix `[[S21,S22],[S11,S12]]` is symmetric -/
def SM.Reciprocal (A : SM F n m) : Prop := A.S21ᵀ = A.S21 ∧ A.S12ᵀ = A.S12 ∧ A.S22ᵀ = A.S11

theorem push_through (X : Matrix k k F) (Y : Matrix k k F) (h : IsUnit (1 - X * Y)) :
    Y * (1 - X * Y)⁻¹ = (1 - Y * X)⁻¹ * Y := by
  have hd := (Matrix.isUnit_iff_isUnit_det _).1 h
  have hd' := (Matrix.isUnit_iff_isUnit_det _).1 (isUnit_swap _ _ h)
  have e : (1 - Y * X) * Y = Y * (1 - X * Y) := by
    rw [one_sub_mul, mul_one_sub, mul_assoc]
  rw [← Matrix.nonsing_inv_mul_cancel_left _ (Y * _) hd', ← Matrix.mul_assoc _ Y, e,
    Matrix.mul_nonsing_inv_cancel_right _ _ hd]

theorem star_reciprocal (A : SM F n k) (B : SM F k m) (h : IsUnit (1 - A.S12 * B.S21))
    (hA : A.Reciprocal) (hB : B.Reciprocal) : (A.add B).Reciprocal := by
  obtain ⟨a1, a2, a3⟩ := hA
  obtain ⟨b1, b2, b3⟩ := hB
  have a3' : A.S11ᵀ = A.S22 := by rw [← a3, Matrix.transpose_transpose]
  have b3' : B.S11ᵀ = B.S22 := by rw [← b3, Matrix.transpose_transpose]
  -- transpose each block: that exchanges the two inner systems (`A.S12`, `B.S21` are symmetric); in the two diagonal
  -- blocks the inverse then stands on the wrong side of the coupling block
  refine ⟨?_, ?_, ?_⟩
  · simp only [SM.add, Matrix.transpose_add, Matrix.transpose_mul, Matrix.transpose_nonsing_inv, Matrix.transpose_sub,
      Matrix.transpose_one, a1, a2, a3', b1, a3, ← Matrix.mul_assoc, push_through _ _ h]
  · simp only [SM.add, Matrix.transpose_add, Matrix.transpose_mul, Matrix.transpose_nonsing_inv, Matrix.transpose_sub,
      Matrix.transpose_one, b1, b2, b3, b3', a2, ← Matrix.mul_assoc, push_through _ _ (isUnit_swap _ _ h)]
  · simp only [SM.add, Matrix.transpose_mul, Matrix.transpose_nonsing_inv, Matrix.transpose_sub, Matrix.transpose_one,
      a2, b1, b3, a3]
    -- `Matrix.mul_assoc` as a `simp` lemma is slow here
    exact (Matrix.mul_assoc _ _ _).symm

section energy
variable {R : Type*} [AddCommGroup R] [PartialOrder R] [IsOrderedAddMonoid R]

/-- `A` never outputs more power than it receives, power measured by arbitrary functionals on the two sides -/
def SM.PassiveWrt (A : SM F n m) (pn : (n → F) → R) (pm : (m → F) → R) : Prop :=
  ∀ u g, pn (A.S21 *ᵥ u + A.S22 *ᵥ g) + pm (A.S11 *ᵥ u + A.S12 *ᵥ g) ≤ pn u + pm g

theorem star_passive (A : SM F n k) (B : SM F k m) (h : IsUnit (1 - A.S12 * B.S21))
    (pn : (n → F) → R) (pk : (k → F) → R) (pm : (m → F) → R)
    (hA : A.PassiveWrt pn pk) (hB : B.PassiveWrt pk pm) : (A.add B).PassiveWrt pn pm := by
  intro u d
  obtain ⟨f, g, e1, e2, e3, e4⟩ := star_complete A B h u d
  have iA := hA u g
  have iB := hB f d
  rw [← e1, ← e2] at iA
  rw [← e3, ← e4] at iB
  -- iA : pn rA + pk f ≤ pn u + pk g ;  iB : pk g + pm rB ≤ pk f + pm d : the interface powers cancel
  exact (add_le_add (le_sub_iff_add_le.2 iA) (le_sub_iff_add_le'.2 iB)).trans_eq (by abel)
end energy

section lossless
variable {R : Type*} [AddCommGroup R]

/-- sesquilinear balance with arbitrary pairings -/
def SM.LosslessWrt (A : SM F n m) (ipn : (n → F) → (n → F) → R) (ipm : (m → F) → (m → F) → R) : Prop :=
  ∀ u g u' g', ipn (A.S21 *ᵥ u' + A.S22 *ᵥ g') (A.S21 *ᵥ u + A.S22 *ᵥ g) + ipm (A.S11 *ᵥ u' + A.S12 *ᵥ g') (A.S11 *ᵥ u + A.S12 *ᵥ g)
    = ipn u' u + ipm g' g

theorem star_lossless (A : SM F n k) (B : SM F k m) (h : IsUnit (1 - A.S12 * B.S21))
    (ipn : (n → F) → (n → F) → R) (ipk : (k → F) → (k → F) → R) (ipm : (m → F) → (m → F) → R)
    (hA : A.LosslessWrt ipn ipk) (hB : B.LosslessWrt ipk ipm) : (A.add B).LosslessWrt ipn ipm := by
  intro u d u' d'
  obtain ⟨f, g, e1, e2, e3, e4⟩ := star_complete A B h u d
  obtain ⟨f', g', e1', e2', e3', e4'⟩ := star_complete A B h u' d'
  have iA := hA u g u' g'
  have iB := hB f d f' d'
  rw [← e1, ← e2, ← e1', ← e2'] at iA
  rw [← e3, ← e4, ← e3', ← e4'] at iB
  -- solve `iA`, `iB` for the outer pairings: the interface pairings cancel
  rw [eq_sub_of_add_eq iA, eq_sub_of_add_eq' iB]
  abel
end lossless

section assembled
variable {K : Type*} [Field K] [StarRing K]
variable {n' m' : Type*} [Fintype n'] [Fintype m'] [DecidableEq n'] [DecidableEq m']

/-- `[[S21, S22], [S11, S12]]` as in `get_S_back` -/
def SM.assemble (A : SM K n' m') : Matrix (n' ⊕ m') (n' ⊕ m') K := Matrix.fromBlocks A.S21 A.S22 A.S11 A.S12

def ip {ι : Type*} [Fintype ι] (x y : ι → K) : K := star x ⬝ᵥ y

omit [StarRing K] [DecidableEq n'] [DecidableEq m'] in
theorem assemble_mulVec (A : SM K n' m') (u : n' → K) (g : m' → K) :
    A.assemble *ᵥ Sum.elim u g = Sum.elim (A.S21 *ᵥ u + A.S22 *ᵥ g) (A.S11 *ᵥ u + A.S12 *ᵥ g) := by
  simp [SM.assemble, Matrix.fromBlocks_mulVec]

omit [DecidableEq n'] [DecidableEq m'] in
theorem ip_sum_elim (x y : n' → K) (x' y' : m' → K) :
    ip (Sum.elim x x') (Sum.elim y y') = ip x y + ip x' y' := by
  have e : star (Sum.elim x x') = Sum.elim (star x) (star x') := funext fun i => by cases i <;> rfl
  unfold ip
  rw [e, sumElim_dotProduct_sumElim]

theorem ip_mulVec {ι : Type*} [Fintype ι] [DecidableEq ι] (M : Matrix ι ι K) (x y : ι → K) :
    ip (M *ᵥ x) (M *ᵥ y) = ip x ((Mᴴ * M) *ᵥ y) := by
  simp only [ip, Matrix.star_mulVec, Matrix.dotProduct_mulVec, Matrix.vecMul_vecMul]

theorem lossless_of_unitary (A : SM K n' m') (h : A.assembleᴴ * A.assemble = 1) :
    A.LosslessWrt (ip (K := K)) (ip (K := K)) := by
  intro u g u' g'
  simp only [← ip_sum_elim, ← assemble_mulVec, ip_mulVec, h, Matrix.one_mulVec]

theorem ip_single {ι : Type*} [Fintype ι] [DecidableEq ι] (i : ι) (y : ι → K) :
    ip (Pi.single i (1 : K)) y = y i := by
  simp only [ip, Pi.star_single, star_one, single_one_dotProduct]

theorem unitary_of_lossless (A : SM K n' m') (h : A.LosslessWrt (ip (K := K)) (ip (K := K))) :
    A.assembleᴴ * A.assemble = 1 := by
  have key (x y : n' ⊕ m' → K) : ip (A.assemble *ᵥ x) (A.assemble *ᵥ y) = ip x y := by
    rw [← Sum.elim_comp_inl_inr x, ← Sum.elim_comp_inl_inr y, assemble_mulVec, assemble_mulVec, ip_sum_elim,
      ip_sum_elim]
    exact h _ _ _ _
  ext i j
  have := key (Pi.single i 1) (Pi.single j 1)
  simp only [ip_mulVec, ip_single, Matrix.mulVec_single_one] at this
  rw [Matrix.one_apply, ← Pi.single_apply]
  exact this

end assembled
