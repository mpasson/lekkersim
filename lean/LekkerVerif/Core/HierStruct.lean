import LekkerVerif.Core.HierFlatten
import LekkerVerif.Core.HierSolveSpec
import LekkerVerif.Core.NetMap

/-! `HNet.flat` is the abstract single-level network made of all leaves and all links of a hierarchy, the exposures of sub-circuits
resolved (`HNet.resolve`) down to leaf pins `(path, name)`; its parts and links are `HNet.leaves` and `HNet.allLinks`
(Core/HierFlatten.lean) read as a network (`HNet.flat_parts`, `HNet.flat_links`).

`HNet.Struct` is what `HNet.WFTree` gives globally: leaf paths are distinct, and all links of all levels, with the pin names
the hierarchy presents, are wired (`HNet.Wired`) to the pins of the leaves as the links and exposures of one level are to the
pins of its children.  At a node (`HNet.struct_node`) the level's own wiring is carried along by `resolveRef`, which is injective
on the pins of the level because the children resolve their names injectively; the wirings of the children sit under different
path heads.  It needs no field: the statements about `flat` that follow from it (`HNet.Struct.closedFree`) are at the end. -/

section flat
variable {F : Type} [Field F] [DecidableEq F]

namespace HNet

/-- a pin of the flattened circuit: the path of child positions down to a leaf, and a pin name of that leaf -/
abbrev HPin := List Nat × String

def pre (k : Nat) (p : HPin) : HPin := (k :: p.1, p.2)
def unpre (p : HPin) : HPin := (p.1.tail, p.2)

theorem unpre_pre (k : Nat) : Function.LeftInverse unpre (pre k) := fun _ => rfl

mutual
/-- the leaf pin an exposed name of a sub-circuit stands for (junk for a name that is not exposed).  `resolve`, `resolveAt`, `pre`
are `leafPin`, `leafPinAt`, `under` of the executable flattening (Core/HierFlatten.lean) written out again, so that the
specification `flat` does not refer to what the flattening computes; `leafPin_eq_resolve` is where the two meet. -/
def resolve : HNet F → String → HPin
  | .leaf _, x => ([], x)
  | .node cs _ exposed, x =>
    match lookupL exposed x with
    | none => ([], x)
    | some r => pre r.1 (resolveAt cs r.1 r.2)
/-- the same for a pin name of the `k`-th child of a level -/
def resolveAt : List (HNet F) → Nat → String → HPin
  | [], _, x => ([], x)
  | h :: _, 0, x => resolve h x
  | _ :: t, k + 1, x => resolveAt t k x
end

/-- a level's pin reference as a pin of the flattened circuit -/
def resolveRef (cs : List (HNet F)) (r : PinRef) : HPin := pre r.1 (resolveAt cs r.1 r.2)

mutual
/-- the flattened circuit: all leaves, all links with the exposures of sub-circuits resolved, the top exposure -/
noncomputable def flat : HNet F → ANet HPin F
  | .leaf c =>
    { parts := [(c.pins.map fun x => ([], x), fun p q => c.sem p.2 q.2)], links := [],
      exposed := c.pins.map fun x => ([], x) }
  | .node cs links exposed =>
    { parts := (flatAll cs 0).flatMap (·.parts)
      links := links.map (fun l => (resolveRef cs l.1, resolveRef cs l.2)) ++ (flatAll cs 0).flatMap (·.links)
      exposed := exposed.map fun e => resolveRef cs e.2 }
/-- the flattened children of a level, each under its position -/
noncomputable def flatAll : List (HNet F) → Nat → List (ANet HPin F)
  | [], _ => []
  | h :: t, k => (flat h).map (pre k) unpre :: flatAll t (k + 1)
end

omit [Field F] [DecidableEq F] in
theorem resolveAt_eq : ∀ (cs : List (HNet F)) (k : Nat) (x : String),
    resolveAt cs k x = match cs[k]? with | some h => resolve h x | none => ([], x) := by
  intro cs
  induction cs with
  | nil => intro k x; rfl
  | cons h t ih =>
    intro k x
    cases k with
    | zero => rfl
    | succ k => exact ih k x

theorem flatAll_eq (cs : List (HNet F)) (k : Nat) :
    flatAll cs k = (cs.zipIdx k).map fun hi => (flat hi.1).map (pre hi.2) unpre := by
  induction cs generalizing k with
  | nil => rfl
  | cons h t ih => rw [List.zipIdx_cons, List.map_cons, ← ih]; rfl

omit [Field F] [DecidableEq F] in
theorem resolveRef_eq {cs : List (HNet F)} {r : PinRef} {h : HNet F} (hr : cs[r.1]? = some h) :
    resolveRef cs r = pre r.1 (resolve h r.2) := by
  unfold resolveRef
  rw [resolveAt_eq, hr]

omit [Field F] [DecidableEq F] in
theorem resolveRef_inj {cs : List (HNet F)} {r r' : PinRef} {h h' : HNet F} (hr : cs[r.1]? = some h)
    (hr' : cs[r'.1]? = some h') (e : resolveRef cs r = resolveRef cs r') :
    r.1 = r'.1 ∧ h = h' ∧ resolve h r.2 = resolve h r'.2 := by
  rw [resolveRef_eq hr, resolveRef_eq hr'] at e
  have hk : r.1 = r'.1 := List.head_eq_of_cons_eq (congrArg Prod.fst e)
  rw [← hk, hr] at hr'
  obtain rfl : h = h' := Option.some.inj hr'
  rw [← hk] at e
  exact ⟨hk, rfl, congrArg unpre e⟩

theorem flat_leaf (c : CompD F) : (HNet.leaf c).flat =
    { parts := [(c.pins.map fun x => ([], x), fun p q => c.sem p.2 q.2)], links := [],
      exposed := c.pins.map fun x => ([], x) } := rfl

omit [Field F] [DecidableEq F] in
theorem resolve_leaf (c : CompD F) (x : String) : (HNet.leaf c).resolve x = ([], x) := rfl

omit [Field F] [DecidableEq F] in
theorem resolve_node (cs : List (HNet F)) (links : List (PinRef × PinRef)) (exposed : List (String × PinRef)) (x : String) :
    (HNet.node cs links exposed).resolve x =
      match lookupL exposed x with
      | none => ([], x)
      | some r => resolveRef cs r := rfl

omit [Field F] [DecidableEq F] in
theorem resolve_node_of_mem {cs : List (HNet F)} {links : List (PinRef × PinRef)} {exposed : List (String × PinRef)}
    (hn : (exposed.map (·.1)).Nodup) (e : String × PinRef) (he : e ∈ exposed) :
    resolve (.node cs links exposed) e.1 = resolveRef cs e.2 := by
  rw [resolve_node, lookupL_of_mem exposed hn e.1 e.2 he]

theorem flat_node (cs : List (HNet F)) (links : List (PinRef × PinRef)) (exposed : List (String × PinRef)) :
    (HNet.node cs links exposed).flat =
    { parts := cs.zipIdx.flatMap fun hi => ((flat hi.1).map (pre hi.2) unpre).parts
      links := links.map (fun l => (resolveRef cs l.1, resolveRef cs l.2)) ++
        cs.zipIdx.flatMap fun hi => ((flat hi.1).map (pre hi.2) unpre).links
      exposed := exposed.map fun e => resolveRef cs e.2 } := by
  show (⟨(flatAll cs 0).flatMap (·.parts), _ ++ (flatAll cs 0).flatMap (·.links), _⟩ : ANet HPin F) = _
  rw [flatAll_eq, List.flatMap_map, List.flatMap_map]

end HNet
end flat

namespace HNet
section struct
variable {F : Type}

theorem under_eq_pre : @under = @pre := rfl

theorem leafPinAt_eq_of (cs : List (HNet F)) (ih : ∀ h ∈ cs, ∀ x, leafPin h x = resolve h x) :
    ∀ k x, leafPinAt cs k x = resolveAt cs k x := by
  induction cs with
  | nil => intro k x; rfl
  | cons h t iht =>
    intro k x
    cases k with
    | zero => exact ih h List.mem_cons_self x
    | succ k => exact iht (fun h' hh' => ih h' (List.mem_cons_of_mem _ hh')) k x

theorem leafPin_eq_resolve : ∀ (h : HNet F) (x : String), leafPin h x = resolve h x := by
  intro h
  induction h using HNet.induction with
  | leaf c => intro x; rfl
  | node cs links exposed ih =>
    intro x
    show (match lookupL exposed x with | none => ([], x) | some r => under r.1 (leafPinAt cs r.1 r.2)) = _
    rw [resolve_node]
    cases lookupL exposed x with
    | none => rfl
    | some r => exact congrArg (pre r.1) (leafPinAt_eq_of cs ih r.1 r.2)

theorem leafRef_eq_resolveRef (cs : List (HNet F)) (r : PinRef) : leafRef cs r = resolveRef cs r := by
  unfold leafRef resolveRef
  rw [leafPinAt_eq_of cs fun h _ => leafPin_eq_resolve h]; rfl

theorem leaves_leaf (c : CompD F) : leaves (HNet.leaf c) = [([], c)] := by rw [leaves]
theorem leaves_node (cs : List (HNet F)) (links : List (PinRef × PinRef)) (exposed : List (String × PinRef)) :
    leaves (HNet.node cs links exposed) = leavesAll cs 0 := by rw [leaves]
theorem allLinks_leaf (c : CompD F) : allLinks (HNet.leaf c) = [] := by rw [allLinks]

theorem leavesAll_eq (cs : List (HNet F)) (k : Nat) :
    leavesAll cs k = (cs.zipIdx k).flatMap fun hi => (leaves hi.1).map fun pc => (hi.2 :: pc.1, pc.2) := by
  induction cs generalizing k with
  | nil => rw [leavesAll]; rfl
  | cons h t ih => rw [leavesAll, ih, List.zipIdx_cons, List.flatMap_cons]

theorem allLinksAll_eq (cs : List (HNet F)) (k : Nat) :
    allLinksAll cs k = (cs.zipIdx k).flatMap fun hi => (allLinks hi.1).map fun l => (pre hi.2 l.1, pre hi.2 l.2) := by
  induction cs generalizing k with
  | nil => rw [allLinksAll]; rfl
  | cons h t ih => rw [allLinksAll, ih, List.zipIdx_cons, List.flatMap_cons]; rfl

theorem allLinks_node (cs : List (HNet F)) (links : List (PinRef × PinRef)) (exposed : List (String × PinRef)) :
    allLinks (HNet.node cs links exposed) = links.map (fun l => (resolveRef cs l.1, resolveRef cs l.2)) ++
      cs.zipIdx.flatMap fun hi => (allLinks hi.1).map fun l => (pre hi.2 l.1, pre hi.2 l.2) := by
  rw [allLinks, allLinksAll_eq]
  simp only [leafRef_eq_resolveRef]

/-- membership under the children of a level, for whatever list is read off each child (`sel`) and placed under its
position (`put`) -/
theorem mem_under {α β : Type} {cs : List (HNet F)} {sel : HNet F → List α} {put : Nat → α → β} {b : β} :
    b ∈ cs.zipIdx.flatMap (fun hi => (sel hi.1).map (put hi.2)) ↔ ∃ i h a, cs[i]? = some h ∧ a ∈ sel h ∧ b = put i a := by
  simp only [List.mem_flatMap, List.mem_map]
  constructor
  · rintro ⟨⟨h, i⟩, hi, a, ha, rfl⟩; exact ⟨i, h, a, List.mem_zipIdx_iff_getElem?.1 hi, ha, rfl⟩
  · rintro ⟨i, h, a, hi, ha, rfl⟩; exact ⟨(h, i), List.mem_zipIdx_iff_getElem?.2 hi, a, ha, rfl⟩

/-- no entry twice under the children of a level, if none is read twice off a child and the placed entry tells its position -/
theorem nodup_under {α β : Type} {cs : List (HNet F)} {sel : HNet F → List α} {put : Nat → α → β}
    (hsel : ∀ {i : Nat} {h}, cs[i]? = some h → (sel h).Nodup) (hinj : ∀ i, Function.Injective (put i))
    (hput : ∀ {i j a b}, put i a = put j b → i = j) :
    (cs.zipIdx.flatMap fun hi => (sel hi.1).map (put hi.2)).Nodup := by
  refine List.nodup_flatMap.2 ⟨fun hi hhi => (hsel (List.mem_zipIdx_iff_getElem?.1 hhi)).map (hinj hi.2),
    (List.pairwise_zipIdx_lt cs 0).imp fun {a b} hab p h1 h2 => ?_⟩
  obtain ⟨p1, _, rfl⟩ := List.mem_map.1 h1
  obtain ⟨p2, _, e⟩ := List.mem_map.1 h2
  exact absurd (hput e) (Nat.ne_of_gt hab)

theorem mem_leaves_node {cs : List (HNet F)} {links : List (PinRef × PinRef)} {exposed : List (String × PinRef)}
    {pc : List Nat × CompD F} :
    pc ∈ leaves (.node cs links exposed) ↔ ∃ i h pc0, cs[i]? = some h ∧ pc0 ∈ leaves h ∧ pc = (i :: pc0.1, pc0.2) := by
  rw [leaves_node, leavesAll_eq]
  exact mem_under (sel := leaves) (put := fun i pc => (i :: pc.1, pc.2))

theorem mem_childLinks {cs : List (HNet F)} {l : HPin × HPin} :
    l ∈ cs.zipIdx.flatMap (fun hi => (allLinks hi.1).map fun l => (pre hi.2 l.1, pre hi.2 l.2)) ↔
      ∃ i h l0, cs[i]? = some h ∧ l0 ∈ allLinks h ∧ l = (pre i l0.1, pre i l0.2) :=
  mem_under (sel := allLinks) (put := fun i l => (pre i l.1, pre i l.2))

/-- `p` is a pin of a leaf of `h` -/
def IsLeafPin (h : HNet F) (p : HPin) : Prop := ∃ pc ∈ leaves h, pc.1 = p.1 ∧ p.2 ∈ pc.2.pins

/-- the pin names a hierarchy presents, each with the leaf pin it stands for: the exposure of the flattened circuit -/
def exposure (h : HNet F) : List (String × HPin) := (pinNames h).map fun x => (x, resolve h x)

/-- structure of a well-formed hierarchy, in terms of its leaves and its resolved links -/
structure Struct (h : HNet F) : Prop where
  leafNodup : ((leaves h).map (·.1)).Nodup
  pinsNodup : ∀ pc ∈ leaves h, pc.2.pins.Nodup
  wired : Wired (IsLeafPin h) (allLinks h) (exposure h)

theorem mem_exposure {h : HNet F} {x : String} (hx : x ∈ pinNames h) : (x, resolve h x) ∈ exposure h :=
  List.mem_map.2 ⟨x, hx, rfl⟩

theorem exposure_node {cs : List (HNet F)} {links : List (PinRef × PinRef)} {exposed : List (String × PinRef)}
    (hn : (exposed.map (·.1)).Nodup) :
    exposure (.node cs links exposed) = exposed.map fun e => (e.1, resolveRef cs e.2) := by
  show (exposed.map (·.1)).map (fun x => (x, resolve (.node cs links exposed) x)) = _
  rw [List.map_map]
  exact List.map_congr_left fun e he => Prod.ext rfl (resolve_node_of_mem (links := links) hn e he)

theorem Struct.inj {h : HNet F} (st : Struct h) : ∀ x ∈ pinNames h, ∀ y ∈ pinNames h, resolve h x = resolve h y → x = y := by
  have := st.wired.expNodup
  rw [exposure, List.map_map] at this
  exact fun x hx y hy e => List.inj_on_of_nodup_map this hx hy e

theorem struct_leaf (c : CompD F) (hn : c.pins.Nodup) : Struct (.leaf c) := by
  have hres : resolve (.leaf c) = fun x => (([], x) : HPin) := funext (resolve_leaf c)
  refine ⟨?_, ?_, ?_⟩
  · rw [leaves_leaf]; exact List.nodup_singleton _
  · rw [leaves_leaf]; exact List.forall_mem_singleton.2 hn
  · rw [allLinks_leaf, exposure, hres]
    refine ⟨List.nodup_nil, ?_, ?_, ?_, List.forall_mem_map.2 fun x hx => ?_, ?_, ?_⟩
    · intro l hl; cases hl
    · intro l hl; cases hl
    · rw [List.map_map]
      exact hn.map fun x y e => (Prod.mk.inj e).2
    · exact ⟨([], c), by rw [leaves_leaf]; exact List.mem_singleton.2 rfl, rfl, hx⟩
    · intro e _ l hl; cases hl
    · rw [List.map_map]
      exact (List.map_id _).symm ▸ hn

theorem struct_node (cs : List (HNet F)) (links : List (PinRef × PinRef)) (exposed : List (String × PinRef))
    (lev : LevelOK (cs.map pinNames) links exposed) (ih : ∀ h ∈ cs, Struct h) :
    Struct (.node cs links exposed) := by
  have W := lev.wired
  have hst : ∀ {i h}, cs[i]? = some h → Struct h := fun hi => ih _ (List.mem_of_getElem? hi)
  have hlift : ∀ {i h p}, cs[i]? = some h → IsLeafPin h p → IsLeafPin (.node cs links exposed) (pre i p) := by
    rintro i h p hi ⟨pc0, h0, h1, h2⟩
    exact ⟨(i :: pc0.1, pc0.2), mem_leaves_node.2 ⟨i, h, pc0, hi, h0, rfl⟩, congrArg (i :: ·) h1, h2⟩
  -- the level's own links and exposures are carried along by `resolveRef`
  have hinj : ∀ r r', IsPin cs r → IsPin cs r' → resolveRef cs r = resolveRef cs r' → r = r' := by
    rintro ⟨k, x⟩ ⟨k', y⟩ ⟨h, hk, hx⟩ ⟨h', hk', hy⟩ e
    obtain ⟨rfl, rfl, e'⟩ := resolveRef_inj (r := (k, x)) (r' := (k', y)) hk hk' e
    rw [(hst hk).inj x hx y hy e']
  have hkey : ∀ r r', IsPin cs r → IsPin cs r' → (resolveRef cs r).1 = (resolveRef cs r').1 → r.1 = r'.1 := by
    rintro r r' ⟨h, hk, -⟩ ⟨h', hk', -⟩ e
    rw [resolveRef_eq hk, resolveRef_eq hk'] at e
    exact List.head_eq_of_cons_eq e
  have hleaf : ∀ r, IsPin cs r → IsLeafPin (.node cs links exposed) (resolveRef cs r) := by
    rintro r ⟨h, hk, hx⟩
    rw [resolveRef_eq hk]
    exact hlift hk ((hst hk).wired.expOk _ (mem_exposure hx))
  have W1 := W.map (resolveRef cs) hinj hkey hleaf
  -- a pin of the level is free in every child
  have hfree : ∀ {r : PinRef}, IsPin cs r → ∀ l ∈ cs.zipIdx.flatMap (fun hi => (allLinks hi.1).map fun l => (pre hi.2 l.1, pre hi.2 l.2)),
      resolveRef cs r ≠ l.1 ∧ resolveRef cs r ≠ l.2 := by
    rintro r ⟨h, hk, hx⟩ l hl
    obtain ⟨i, h', l0, hi, h0, rfl⟩ := mem_childLinks.1 hl
    rw [resolveRef_eq hk]
    have key : ∀ p : HPin, pre r.1 (resolve h r.2) = pre i p → resolve h r.2 = p ∧ h = h' := by
      intro p e
      obtain rfl : r.1 = i := List.head_eq_of_cons_eq (congrArg Prod.fst e)
      exact ⟨congrArg unpre e, Option.some.inj (hk.symm.trans hi)⟩
    constructor <;> intro e <;> obtain ⟨e1, rfl⟩ := key _ e
    · exact ((hst hk).wired.expFree _ (mem_exposure hx) l0 h0).1 e1
    · exact ((hst hk).wired.expFree _ (mem_exposure hx) l0 h0).2 e1
  refine ⟨?_, ?_, ?_⟩
  · -- paths under different positions differ in their heads
    rw [leaves_node, leavesAll_eq, List.map_flatMap]
    simpa only [List.map_map, Function.comp_def] using
      nodup_under (cs := cs) (fun hi => (hst hi).leafNodup) (fun _ => List.cons_injective) List.head_eq_of_cons_eq
  · intro pc hpc
    obtain ⟨i, h, pc0, hi, h0, rfl⟩ := mem_leaves_node.1 hpc
    exact (hst hi).pinsNodup pc0 h0
  · rw [exposure_node lev.namesNodup, allLinks_node]
    refine ⟨?_, List.forall_mem_append.2 ⟨W1.endsOk, fun l hl => ?_⟩, List.forall_mem_append.2 ⟨W1.noSelf, fun l hl => ?_⟩,
      W1.expNodup, W1.expOk, ?_, W1.namesNodup⟩
    · rw [List.flatMap_append, List.flatMap_assoc]
      refine List.nodup_append.2 ⟨W1.endsNodup, ?_, ?_⟩
      · simp only [List.ends_map]
        exact nodup_under (fun hi => (hst hi).wired.endsNodup) (fun i => (unpre_pre i).injective)
          fun e => List.head_eq_of_cons_eq (congrArg Prod.fst e)
      · intro a ha b hb e
        rw [List.ends_map] at ha
        obtain ⟨x, hx, rfl⟩ := List.mem_map.1 ha
        rw [← List.flatMap_assoc] at hb
        obtain ⟨l, hl, hb⟩ := List.mem_ends.1 hb
        have := hfree (W.end_ok hx) l hl
        rcases hb with rfl | rfl
        · exact this.1 e
        · exact this.2 e
    · obtain ⟨i, h, l0, hi, h0, rfl⟩ := mem_childLinks.1 hl
      exact ⟨hlift hi ((hst hi).wired.endsOk l0 h0).1, hlift hi ((hst hi).wired.endsOk l0 h0).2⟩
    · obtain ⟨i, h, l0, hi, h0, rfl⟩ := mem_childLinks.1 hl
      exact fun e => (hst hi).wired.noSelf l0 h0 (List.tail_eq_of_cons_eq e)
    · refine List.forall_mem_map.2 fun e he => List.forall_mem_append.2 ⟨?_, hfree (W.expOk e he)⟩
      exact W1.expFree _ (List.mem_map.2 ⟨e, he, rfl⟩)

theorem WFTree.struct {h : HNet F} (w : WFTree h) (hn : (pinNames h).Nodup) : Struct h := by
  induction w with
  | leaf c => exact struct_leaf c hn
  | node cs links exposed _ lev ih =>
    exact struct_node cs links exposed lev fun h hh => ih h hh (lev.pinsNodup _ (List.mem_map.2 ⟨h, hh, rfl⟩))

end struct

section flatLists
variable {F : Type} [Field F] [DecidableEq F]

/-- the part of the flattened network a leaf gives -/
def partOf (pc : List Nat × CompD F) : List HPin × (HPin → HPin → F) :=
  (pc.2.pins.map fun x => (pc.1, x), fun q q' => pc.2.sem q.2 q'.2)

theorem flat_parts : ∀ h : HNet F, (flat h).parts = (leaves h).map partOf := by
  intro h
  induction h using HNet.induction with
  | leaf c => rw [flat_leaf, leaves_leaf]; rfl
  | node cs links exposed ih =>
    rw [flat_node, leaves_node, leavesAll_eq, List.map_flatMap]
    refine List.flatMap_congr fun hi hhi => ?_
    show (flat hi.1).parts.map _ = _
    rw [ih hi.1 (List.mem_of_getElem? (List.mem_zipIdx_iff_getElem?.1 hhi)), List.map_map, List.map_map]
    exact List.map_congr_left fun pc _ => Prod.ext List.map_map rfl

theorem flat_links : ∀ h : HNet F, (flat h).links = allLinks h := by
  intro h
  induction h using HNet.induction with
  | leaf c => rw [flat_leaf, allLinks_leaf]
  | node cs links exposed ih =>
    rw [flat_node, allLinks_node]
    show _ ++ _ = _
    congr 1
    refine List.flatMap_congr fun hi hhi => ?_
    show (flat hi.1).links.map _ = _
    rw [ih hi.1 (List.mem_of_getElem? (List.mem_zipIdx_iff_getElem?.1 hhi))]

theorem pinSet_flat {h : HNet F} {p : HPin} : (flat h).pinSet p ↔ IsLeafPin h p := by
  unfold ANet.pinSet IsLeafPin
  rw [flat_parts]
  constructor
  · rintro ⟨part, hpart, hp⟩
    obtain ⟨pc, hpc, rfl⟩ := List.mem_map.1 hpart
    obtain ⟨x, hx, rfl⟩ := List.mem_map.1 hp
    exact ⟨pc, hpc, rfl, hx⟩
  · rintro ⟨pc, hpc, h1, h2⟩
    exact ⟨partOf pc, List.mem_map.2 ⟨pc, hpc, rfl⟩, List.mem_map.2 ⟨p.2, h2, Prod.ext h1 rfl⟩⟩

theorem flat_exposed {h : HNet F} (hn : (pinNames h).Nodup) : (flat h).exposed = (pinNames h).map (resolve h) := by
  cases h with
  | leaf c => rw [flat_leaf]; exact List.map_congr_left fun x _ => (resolve_leaf c x).symm
  | node cs links exposed =>
    rw [flat_node]
    show _ = (exposed.map (·.1)).map _
    rw [List.map_map]
    exact List.map_congr_left fun e he => (resolve_node_of_mem hn e he).symm

theorem Struct.closedFree {h : HNet F} (st : Struct h) (hn : (pinNames h).Nodup) : (flat h).ClosedFree := by
  constructor
  · intro l hl
    rw [flat_links] at hl
    exact ⟨pinSet_flat.2 (st.wired.endsOk l hl).1, pinSet_flat.2 (st.wired.endsOk l hl).2⟩
  · rw [flat_exposed hn]
    refine List.forall_mem_map.2 fun x hx => ⟨pinSet_flat.2 (st.wired.expOk _ (mem_exposure hx)), ?_⟩
    show ∀ q, ¬ ((resolve h x, q) ∈ (flat h).links ∨ (q, resolve h x) ∈ (flat h).links)
    rw [flat_links]
    exact (List.not_lnk_iff _ _).2 (st.wired.expFree _ (mem_exposure hx))

theorem Struct.leafPin_of_mentions {h : HNet F} (st : Struct h) (hn : (pinNames h).Nodup) {p : HPin}
    (hp : (flat h).Mentions p) : IsLeafPin h p :=
  have cl := st.closedFree hn
  pinSet_flat.1 (ANet.pinSet_of_mentions cl.links (fun e he => (cl.exposed e he).1) hp)

end flatLists
end HNet
