import Mathlib.LinearAlgebra.Matrix.SchurComplement

/-! `SM F n m` is `S_matrix` of `scattering.py` over Mathlib matrices: `n` indexes the left ports (`N`), `m` the right ports
(`M`), and the four blocks keep the code's names and shapes: `S21 : n × n` reflects at the left, `S12 : m × m` at the right,
`S11 : m × n` transmits left to right, `S22 : n × m` right to left (`PairEq`, Core/Kernel.lean, writes the equations out). -/

open Matrix

variable {F : Type*} [Field F]
variable {n k m : Type*} [Fintype n] [Fintype k] [Fintype m] [DecidableEq n] [DecidableEq k] [DecidableEq m]

structure SM (F : Type*) (n m : Type*) where
  S11 : Matrix m n F
  S22 : Matrix n m F
  S12 : Matrix m m F
  S21 : Matrix n n F
