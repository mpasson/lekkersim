import Mathlib.Data.List.Forall2
import Mathlib.Data.List.Nodup
import Mathlib.Data.List.Range

/-! List facts the files on hierarchies share: two lists related entry by entry (`List.Forall₂`) read at an index, the index of an
entry of a duplicate-free list, a list against its indices, the ends of a list of pairs (the last also for the links of a
description, Core/RefineNet.lean). -/

theorem List.Forall₂.of_getElem?_right {α β : Type*} {R : α → β → Prop} {l : List α} {l' : List β}
    (h : List.Forall₂ R l l') {i : Nat} {b : β} (hb : l'[i]? = some b) : ∃ a, l[i]? = some a ∧ R a b := by
  obtain ⟨hi, rfl⟩ := List.getElem?_eq_some_iff.1 hb
  have hi' : i < l.length := h.length_eq ▸ hi
  exact ⟨l[i], List.getElem?_eq_getElem hi', h.get hi' hi⟩

theorem List.Forall₂.imp_of_mem {α β : Type*} {R S : α → β → Prop} {l : List α} {l' : List β}
    (h : List.Forall₂ R l l') (hi : ∀ a ∈ l, ∀ b, R a b → S a b) : List.Forall₂ S l l' :=
  List.forall₂_iff_zip.2 ⟨h.length_eq, fun hab => hi _ (List.of_mem_zip hab).1 _ (List.forall₂_zip h hab)⟩

theorem List.Forall₂.of_getElem?_left {α β : Type*} {R : α → β → Prop} {l : List α} {l' : List β}
    (h : List.Forall₂ R l l') {i : Nat} {a : α} (ha : l[i]? = some a) : ∃ b, l'[i]? = some b ∧ R a b :=
  (List.Forall₂.flip (R := fun b a => R a b) h).of_getElem?_right ha

theorem List.exists_getElem?_map {α β : Type*} (f : α → β) (l : List α) (k : Nat) (P : β → Prop) :
    (∃ b, (l.map f)[k]? = some b ∧ P b) ↔ ∃ a, l[k]? = some a ∧ P (f a) := by
  rw [List.getElem?_map]
  cases l[k]? <;> simp

theorem List.pairwise_zipIdx_lt {α : Type*} (l : List α) (k : Nat) : (l.zipIdx k).Pairwise fun a b => a.2 < b.2 :=
  List.pairwise_map.1 (List.zipIdx_map_snd k l ▸ List.pairwise_lt_range' 1)

theorem List.idxOf_of_getElem? {α : Type*} [BEq α] [LawfulBEq α] {l : List α} (hn : l.Nodup) {a : α} {j : Nat}
    (h : l[j]? = some a) : l.idxOf a = j := by
  obtain ⟨h1, h2⟩ := List.getElem?_eq_some_iff.1 h
  rw [← h2]
  exact hn.idxOf_getElem j h1

theorem List.map_zipIdx_fst {α β : Type*} (l : List α) (g : α → β) : (l.zipIdx.map fun pi => g pi.1) = l.map g := by
  show l.zipIdx.map (g ∘ Prod.fst) = _
  rw [← List.map_map, List.zipIdx_map_fst]

theorem List.range_map_getD {α : Type*} (l : List α) (d : α) : (List.range l.length).map (fun i => l.getD i d) = l := by
  refine List.ext_getElem (by rw [List.length_map, List.length_range]) fun i h1 h2 => ?_
  rw [List.getElem_map, List.getElem_range, ← List.getElem_eq_getD (h := h2)]

theorem List.ends_map {α β : Type*} (f : α → β) (ls : List (α × α)) :
    ((ls.map fun l => (f l.1, f l.2)).flatMap fun l => [l.1, l.2]) = (ls.flatMap fun l => [l.1, l.2]).map f := by
  rw [List.flatMap_map, List.map_flatMap]; rfl

theorem List.mem_ends {α : Type*} {ls : List (α × α)} {a : α} :
    a ∈ ls.flatMap (fun l => [l.1, l.2]) ↔ ∃ l ∈ ls, a = l.1 ∨ a = l.2 := by
  simp only [List.mem_flatMap, List.mem_cons, List.not_mem_nil, or_false]

/-- free of a list of links: no end of one, in the two ways this is written -/
theorem List.not_lnk_iff {α : Type*} (ls : List (α × α)) (p : α) :
    (∀ q, ¬ ((p, q) ∈ ls ∨ (q, p) ∈ ls)) ↔ ∀ l ∈ ls, p ≠ l.1 ∧ p ≠ l.2 := by
  constructor
  · intro h l hl
    constructor
    · rintro rfl; exact h l.2 (Or.inl hl)
    · rintro rfl; exact h l.1 (Or.inr hl)
  · rintro h q (hq | hq)
    · exact (h _ hq).1 rfl
    · exact (h _ hq).2 rfl
