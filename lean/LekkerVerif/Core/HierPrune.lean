import LekkerVerif.Core.HierSplit
/-! `Solver.prune()` on one level of a hierarchical circuit — the matrix side (executable, core Lean only).

A child that presents no pin to its parent (a component without pins, a sub-solver that exposes nothing) is a dead
branch: nothing can be linked to it and nothing of it can be exposed.  `HNet.pruneLevel` drops the dead children of a
level and re-addresses the links and the exposures by the positions of the children that stay (`HNet.subLevel` on the
set of live positions).  `Solver.prune()` recurses into the sub-solvers; that recursion is the business of the Prune
model, here the point is what the level solves to.

* `HNet.isDead h` — the child presents no pin name to its parent;
* `HNet.liveSet cs` — the positions of the children that are not dead, increasing;
* `HNet.pruneLevel` — the level without its dead children (a component is itself). -/

namespace HNet
variable {F : Type}

/-- a child is dead when it presents no pin name to its parent -/
def isDead : HNet F → Bool
  | .leaf c => c.pins.isEmpty
  | .node _ _ exposed => exposed.isEmpty

/-- the positions of the children that are not dead -/
def liveSet (cs : List (HNet F)) : List Nat :=
  (List.range cs.length).filter fun i => !(cs.getD i (.node [] [] [])).isDead

/-- the level without its dead children, links and exposures re-addressed -/
def pruneLevel : HNet F → HNet F
  | .leaf c => .leaf c
  | .node cs links exposed => subLevel cs links exposed (liveSet cs)

/-! ### the criterion of `Solver.prune()` itself (theorems in Core/HierPruneRec.lean) -/

mutual
/-- the return value of `Solver.prune()` / `Model.is_empty()`: nothing with a pin is left underneath -/
def emptyRec : HNet F → Bool
  | .leaf c => c.pins.isEmpty
  | .node cs _ _ => emptyAll cs
/-- `len(not_empty) == 0` -/
def emptyAll : List (HNet F) → Bool
  | [] => true
  | h :: t => emptyRec h && emptyAll t
end

/-- the positions of the children `prune()` keeps on a level -/
def keepSet (cs : List (HNet F)) : List Nat :=
  (List.range cs.length).filter fun i => !(cs.getD i (.node [] [] [])).emptyRec

/-- the level with the children `prune()` removes gone -/
def keepLevel : HNet F → HNet F
  | .leaf c => .leaf c
  | .node cs links exposed => subLevel cs links exposed (keepSet cs)

/-! Sanity check: a level of four children, the second one a sub-solver that exposes nothing, the last one a component
without pins (so `d.pins = []` is assumed).  Both are dropped, the third child moves to position 1. -/

example (a c d : CompD F) (ha : a.pins = ["a", "b"]) (hc : c.pins = ["a", "b"]) (hd : d.pins = []) :
    pruneLevel (.node [.leaf a, .node [.leaf a] [] [], .leaf c, .leaf d] [((0, "b"), (2, "a"))]
      [("in", (0, "a")), ("out", (2, "b"))]) =
    .node [.leaf a, .leaf c] [((0, "b"), (1, "a"))] [("in", (0, "a")), ("out", (1, "b"))] := by
  -- in stages: the live set first, then the positions, then the rest
  have hl : liveSet [.leaf a, .node [.leaf a] [] [], .leaf c, .leaf d] = [0, 2] := by
    simp only [liveSet, List.length_cons, List.length_nil, Nat.zero_add, Nat.reduceAdd, List.range, List.range.loop,
      List.filter, List.getD_cons_zero, List.getD_cons_succ, isDead, ha, hc, hd, List.isEmpty_cons, List.isEmpty_nil,
      Bool.not_false, Bool.not_true]
  simp only [pruneLevel, subLevel, hl, List.length_cons, List.length_nil, Nat.zero_add, Nat.reduceAdd,
    show positions 4 [0, 2] = [0, 2] by decide]
  rfl

end HNet
