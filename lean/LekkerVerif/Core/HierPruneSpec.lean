import LekkerVerif.Core.HierPrune
import LekkerVerif.Core.HierSplitSpec

/-! C19, the matrix side, one level.  `HNet.pruneLevel` (Core/HierPrune.lean) drops the children of a level that present no pin to
it: the sub-solver (`HNet.subLevel`) of the live children.  On a well-formed level no link ends on a dead child and no
exposure points at one (`HNet.liveSet_links`, `HNet.liveSet_exposed`), so Core/HierSplitSpec.lean applies: the pruned level
is well formed and returns the same pins and the same coefficient between every two of them (`HNet.prune_preserves`, any
schedules).  Its children are the children that are not dead, in order (`HNet.pruneLevel_node`). -/

namespace HNet
variable {F : Type}

theorem isDead_iff (h : HNet F) : isDead h = true ↔ pinNames h = [] := by
  cases h with
  | leaf c => exact List.isEmpty_iff
  | node cs links exposed =>
    show exposed.isEmpty = true ↔ exposed.map (·.1) = []
    rw [List.isEmpty_iff, List.map_eq_nil_iff]

theorem mem_filter_range_getD (cs : List (HNet F)) (f : HNet F → Bool) (d : HNet F) (i : Nat) :
    i ∈ (List.range cs.length).filter (fun i => f (cs.getD i d)) ↔ ∃ h, cs[i]? = some h ∧ f h = true := by
  rw [List.mem_filter, List.mem_range]
  constructor
  · rintro ⟨hi, hd⟩
    exact ⟨cs[i], List.getElem?_eq_getElem hi, List.getElem_eq_getD (h := hi) d ▸ hd⟩
  · rintro ⟨h, hi, hd⟩
    obtain ⟨hlt, rfl⟩ := List.getElem?_eq_some_iff.1 hi
    exact ⟨hlt, List.getElem_eq_getD (h := hlt) d ▸ hd⟩

theorem mem_liveSet (cs : List (HNet F)) (i : Nat) : i ∈ liveSet cs ↔ ∃ h, cs[i]? = some h ∧ isDead h = false := by
  simpa only [liveSet, Bool.not_eq_true'] using mem_filter_range_getD cs (fun h => !h.isDead) (.node [] [] []) i

theorem IsPin.live {cs : List (HNet F)} {r : PinRef} (hr : IsPin cs r) : r.1 ∈ liveSet cs := by
  obtain ⟨h, hk, hx⟩ := hr
  refine (mem_liveSet cs r.1).2 ⟨h, hk, Bool.eq_false_iff.2 fun hd => ?_⟩
  rw [(isDead_iff h).1 hd] at hx
  cases hx

theorem liveSet_links {cs : List (HNet F)} {links : List (PinRef × PinRef)} {exposed : List (String × PinRef)}
    (lev : LevelOK (cs.map pinNames) links exposed) (l : PinRef × PinRef) (hl : l ∈ links) :
    l.1.1 ∈ liveSet cs ∧ l.2.1 ∈ liveSet cs :=
  ⟨(lev.wired.endsOk l hl).1.live, (lev.wired.endsOk l hl).2.live⟩

theorem liveSet_closed {cs : List (HNet F)} {links : List (PinRef × PinRef)} {exposed : List (String × PinRef)}
    (lev : LevelOK (cs.map pinNames) links exposed) (l : PinRef × PinRef) (hl : l ∈ links) :
    l.1.1 ∈ liveSet cs ↔ l.2.1 ∈ liveSet cs :=
  ⟨fun _ => (liveSet_links lev l hl).2, fun _ => (liveSet_links lev l hl).1⟩

theorem liveSet_exposed {cs : List (HNet F)} {links : List (PinRef × PinRef)} {exposed : List (String × PinRef)}
    (lev : LevelOK (cs.map pinNames) links exposed) (e : String × PinRef) (he : e ∈ exposed) :
    e.2.1 ∈ liveSet cs :=
  (lev.wired.expOk e he).live

theorem positions_filter_range (n : Nat) (f : Nat → Bool) :
    positions n ((List.range n).filter f) = (List.range n).filter f := by
  unfold positions
  apply List.filter_congr
  intro i hi
  rw [Bool.eq_iff_iff, List.contains_iff_mem, List.mem_filter, and_iff_right hi]

theorem subCs_filter_range (cs : List (HNet F)) (f : HNet F → Bool) :
    subCs cs ((List.range cs.length).filter fun i => f (cs.getD i (.node [] [] []))) = cs.filter f := by
  unfold subCs
  conv_rhs => rw [← List.range_map_getD cs (.node [] [] [])]
  rw [List.filter_map]
  rfl

/-- C19, `pruneLevel` removes exactly the dead children: the children of the pruned level are the children that are not
dead, in order; links and exposures are re-addressed by the positions inside the live set -/
theorem pruneLevel_node (cs : List (HNet F)) (links : List (PinRef × PinRef)) (exposed : List (String × PinRef)) :
    pruneLevel (.node cs links exposed) =
      .node (cs.filter fun h => !h.isDead) (subLinks links (liveSet cs)) (subExp exposed (liveSet cs)) := by
  show subLevel cs links exposed (liveSet cs) = _
  unfold subLevel
  rw [liveSet, positions_filter_range]
  exact congrArg (HNet.node · _ _) (subCs_filter_range cs fun h => !h.isDead)

theorem WFTree.pruneLevel {h : HNet F} (w : WFTree h) : WFTree h.pruneLevel := by
  cases h with
  | leaf c => exact w
  | node cs links exposed => exact w.subLevel (liveSet cs)

variable [Field F] [DecidableEq F]

/-- C19, `prune()` preserves the solved matrix: the level without its dead children returns the same pins and the
same coefficient between every two of them (any schedules) -/
theorem prune_preserves (s s' : List (St F) → Option (Nat × Nat)) (h : HNet F) (w : WFTree h) (c c' : CompD F)
    (hs : solveH s h = .ok c) (hs' : solveH s' h.pruneLevel = .ok c') :
    c'.pins = c.pins ∧ ∀ x ∈ c.pins, ∀ y ∈ c.pins, c'.sem x y = c.sem x y := by
  cases h with
  | leaf c0 =>
    obtain rfl := solveH_leaf_eq hs hs'
    exact ⟨rfl, fun _ _ _ _ => rfl⟩
  | node cs links exposed =>
    exact subLevel_preserves s s' cs links exposed w c c' hs (liveSet cs) (liveSet_closed w.level) (liveSet_exposed w.level) hs'

end HNet
