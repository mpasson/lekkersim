import LekkerVerif.Core.AbsJoin

/-! Networks over an arbitrary pin type (`ANet`), their wave equations (`ANet.Sol`) and solution operators
(`ANet.SolvedBy`).  Three facts carry everything that is proved about them, here and in `Disjoint`, `NetMap`, `ModesNet`:
the equations are local (`ANet.Sol.congr`: they only look at the waves on the pins the description mentions, so solutions
of two networks can be glued, `ANet.sol_glue`); the waves of a composite network are the waves that solve its
constituents together (`ANet.inlined_sol_of_both`, `ANet.union_sol_iff`); and an operator is a matter of the waves a
network admits on its exposed pins (`ANet.SolvedBy.of_sol`).

Hierarchy is transparent: replacing a sub-network by one component that carries the sub-network's solution operator does
not change the solution operator of the enclosing network (`ANet.substitution_iff`). -/

variable {F : Type*} [Field F]
variable {P : Type*}

theorem rowSum_congrS (pins : List P) (S S' : P → P → F) (a : P → F) (p : P) (h : ∀ q ∈ pins, S p q = S' p q) :
    rowSum pins S a p = rowSum pins S' a p := by
  unfold rowSum
  exact congrArg List.sum (List.map_congr_left fun q hq => by rw [h q hq])

theorem rowSum_map {ι : Type*} (f : ι → P) (l : List ι) (S : P → P → F) (a : P → F) (p : P) :
    rowSum (l.map f) S a p = (l.map fun i => S p (f i) * a (f i)).sum := by
  unfold rowSum
  rw [List.map_map]
  rfl

theorem rowSum_zero (pins : List P) (S : P → P → F) (a : P → F) (p : P) (h : ∀ q ∈ pins, S p q = 0 ∨ a q = 0) :
    rowSum pins S a p = 0 := by
  unfold rowSum
  apply List.sum_eq_zero
  intro x hx
  obtain ⟨q, hq, rfl⟩ := List.mem_map.1 hx
  exact mul_eq_zero.2 (h q hq)

theorem rowSum_indicator [DecidableEq P] (E : List P) (hn : E.Nodup) (S : P → P → F) (a : P → F) (x y : P) (hy : y ∈ E)
    (ha : ∀ e ∈ E, a e = if e = y then 1 else 0) : rowSum E S a x = S x y :=
  (rowSum_congr E S a _ x ha).trans (sum_indicator E hn (S x) hy)

theorem Eqn.congr {pins : List P} {S : P → P → F} {a b a' b' : P → F} (h : Eqn pins S a b)
    (e : ∀ p ∈ pins, a' p = a p ∧ b' p = b p) : Eqn pins S a' b' := fun p hp => by
  rw [(e p hp).2, h p hp]
  exact rowSum_congr _ _ _ _ _ fun q hq => (e q hq).1.symm

/-- a network over an arbitrary pin type: parts (pins, pin-keyed matrix), links, exposed pins -/
structure ANet (P : Type*) (F : Type*) where
  parts   : List (List P × (P → P → F))
  links   : List (P × P)
  exposed : List P

namespace ANet

theorem ext_of {P F : Type*} : ∀ {N N' : ANet P F}, N.parts = N'.parts → N.links = N'.links →
    N.exposed = N'.exposed → N = N' := by
  rintro ⟨_, _, _⟩ ⟨_, _, _⟩ ⟨⟩ ⟨⟩ ⟨⟩
  rfl

def Lnk (N : ANet P F) (p q : P) : Prop := (p, q) ∈ N.links ∨ (q, p) ∈ N.links

/-- network equations: every part's component equation, the link equations, no input at unexposed free pins -/
structure Sol (N : ANet P F) (a b : P → F) : Prop where
  comp : ∀ part ∈ N.parts, Eqn part.1 part.2 a b
  link : ∀ l ∈ N.links, a l.1 = b l.2 ∧ a l.2 = b l.1
  free : ∀ part ∈ N.parts, ∀ p ∈ part.1, (∀ q, ¬ N.Lnk p q) → p ∉ N.exposed → a p = 0

/-- `T` is the solution operator on the exposed pins: every solution obeys it, and every excitation has a solution -/
def SolvedBy (N : ANet P F) (T : P → P → F) : Prop :=
  (∀ a b, N.Sol a b → ∀ e ∈ N.exposed, b e = rowSum N.exposed T a e) ∧
  (∀ v : P → F, ∃ a b, N.Sol a b ∧ ∀ e ∈ N.exposed, a e = v e)

/-- all pins of the parts -/
def pinSet (N : ANet P F) (p : P) : Prop := ∃ part ∈ N.parts, p ∈ part.1

/-- the pins a description mentions: pins of parts, ends of links, exposed pins -/
def Mentions (N : ANet P F) (p : P) : Prop :=
  N.pinSet p ∨ (∃ l ∈ N.links, p = l.1 ∨ p = l.2) ∨ p ∈ N.exposed

section mentions
omit [Field F]
variable {N : ANet P F}

theorem mentions_pin {part : List P × (P → P → F)} {p : P} (hp : part ∈ N.parts) (hpp : p ∈ part.1) : N.Mentions p :=
  .inl ⟨part, hp, hpp⟩

theorem mentions_fst {l : P × P} (hl : l ∈ N.links) : N.Mentions l.1 := .inr (.inl ⟨l, hl, .inl rfl⟩)

theorem mentions_snd {l : P × P} (hl : l ∈ N.links) : N.Mentions l.2 := .inr (.inl ⟨l, hl, .inr rfl⟩)

theorem mentions_exposed {e : P} (he : e ∈ N.exposed) : N.Mentions e := .inr (.inr he)

theorem pinSet_of_mentions (hl : ∀ l ∈ N.links, N.pinSet l.1 ∧ N.pinSet l.2) (he : ∀ e ∈ N.exposed, N.pinSet e) {p : P}
    (h : N.Mentions p) : N.pinSet p := by
  rcases h with h | ⟨l, hl', rfl | rfl⟩ | h
  exacts [h, (hl l hl').1, (hl l hl').2, he p h]

end mentions

theorem Sol.congr {N : ANet P F} {a b a' b' : P → F} (h : N.Sol a b)
    (e : ∀ p, N.Mentions p → a' p = a p ∧ b' p = b p) : N.Sol a' b' := by
  refine ⟨fun part hp => (h.comp part hp).congr fun p hpp => e p (mentions_pin hp hpp), fun l hl => ?_,
    fun part hp p hpp hfree hne => ?_⟩
  · rw [(e l.1 (mentions_fst hl)).1, (e l.1 (mentions_fst hl)).2, (e l.2 (mentions_snd hl)).1, (e l.2 (mentions_snd hl)).2]
    exact h.link l hl
  · rw [(e p (mentions_pin hp hpp)).1]
    exact h.free part hp p hpp hfree hne

/-- the first solution inside `I`, the second outside, solve both networks -/
theorem sol_glue {N₁ N₂ : ANet P F} (I : P → Prop) {a₁ b₁ a₂ b₂ : P → F} (h₁ : N₁.Sol a₁ b₁) (h₂ : N₂.Sol a₂ b₂)
    (m₁ : ∀ p, N₁.Mentions p → I p) (m₂ : ∀ p, N₂.Mentions p → I p → a₁ p = a₂ p ∧ b₁ p = b₂ p) :
    ∃ a b, N₁.Sol a b ∧ N₂.Sol a b ∧ (∀ p, I p → a p = a₁ p ∧ b p = b₁ p) ∧
      ∀ p, (I p → a₁ p = a₂ p ∧ b₁ p = b₂ p) → a p = a₂ p ∧ b p = b₂ p := by
  classical
  have g₁ : ∀ p, I p → (if I p then a₁ p else a₂ p) = a₁ p ∧ (if I p then b₁ p else b₂ p) = b₁ p :=
    fun p hp => ⟨if_pos hp, if_pos hp⟩
  have g₂ : ∀ p, (I p → a₁ p = a₂ p ∧ b₁ p = b₂ p) →
      (if I p then a₁ p else a₂ p) = a₂ p ∧ (if I p then b₁ p else b₂ p) = b₂ p := by
    intro p hp
    by_cases hI : I p
    · rw [if_pos hI, if_pos hI]
      exact hp hI
    · exact ⟨if_neg hI, if_neg hI⟩
  exact ⟨_, _, h₁.congr fun p hp => g₁ p (m₁ p hp), h₂.congr fun p hp => g₂ p (m₂ p hp), g₁, g₂⟩

omit [Field F] in
theorem lnk_append {N N₁ N₂ : ANet P F} (h : N.links = N₁.links ++ N₂.links) (p q : P) :
    N.Lnk p q ↔ N₁.Lnk p q ∨ N₂.Lnk p q := by
  unfold Lnk
  rw [h, List.mem_append, List.mem_append]
  exact or_or_or_comm

/-- the equations read a part's matrix between the part's pins only, and not at all when it has no pin -/
theorem sol_of_sameOn (N N' : ANet P F)
    (hp : ∀ part' ∈ N'.parts, part'.1 ≠ [] →
      ∃ part ∈ N.parts, part.1 = part'.1 ∧ ∀ p ∈ part'.1, ∀ q ∈ part'.1, part.2 p q = part'.2 p q)
    (hl : ∀ l, l ∈ N.links ↔ l ∈ N'.links) (he : ∀ e, e ∈ N.exposed ↔ e ∈ N'.exposed)
    (a b : P → F) (h : N.Sol a b) : N'.Sol a b := by
  refine ⟨fun part' hpart' p hpp => ?_, fun l hl' => h.link l ((hl l).2 hl'), fun part' hpart' p hpp hfree hne => ?_⟩
  · obtain ⟨part, hpart, e1, e2⟩ := hp part' hpart' (List.ne_nil_of_mem hpp)
    rw [h.comp part hpart p (e1 ▸ hpp), e1]
    exact rowSum_congrS _ _ _ _ _ (e2 p hpp)
  · obtain ⟨part, hpart, e1, -⟩ := hp part' hpart' (List.ne_nil_of_mem hpp)
    exact h.free part hpart p (e1 ▸ hpp) (fun q hq => hfree q (hq.imp (hl _).1 (hl _).1)) fun hin => hne ((he p).1 hin)

theorem sol_of_sameNE (N N' : ANet P F) (hp : ∀ part, part.1 ≠ [] → (part ∈ N.parts ↔ part ∈ N'.parts))
    (hl : ∀ l, l ∈ N.links ↔ l ∈ N'.links) (he : ∀ e, e ∈ N.exposed ↔ e ∈ N'.exposed)
    (a b : P → F) (h : N.Sol a b) : N'.Sol a b :=
  sol_of_sameOn N N' (fun part hpart hne => ⟨part, (hp part hne).2 hpart, rfl, fun _ _ _ _ => rfl⟩) hl he a b h

theorem SolvedBy.of_sol {N N' : ANet P F} {T : P → P → F} (he : N.exposed.Perm N'.exposed)
    (fwd : ∀ a b, N.Sol a b → ∃ a' b', N'.Sol a' b' ∧ ∀ e ∈ N.exposed, a' e = a e ∧ b' e = b e)
    (bwd : ∀ a b, N'.Sol a b → ∃ a' b', N.Sol a' b' ∧ ∀ e ∈ N.exposed, a' e = a e ∧ b' e = b e)
    (h : N.SolvedBy T) : N'.SolvedBy T := by
  refine ⟨fun a b hab e hin => ?_, fun v => ?_⟩
  · obtain ⟨a', b', hab', hw⟩ := bwd a b hab
    have hin' := he.mem_iff.2 hin
    rw [← rowSum_perm he, ← (hw e hin').2, h.1 a' b' hab' e hin']
    exact rowSum_congr _ _ _ _ _ fun q hq => (hw q hq).1
  · obtain ⟨a, b, hab, hv⟩ := h.2 v
    obtain ⟨a', b', hab', hw⟩ := fwd a b hab
    exact ⟨a', b', hab', fun e hin => (hw e (he.mem_iff.2 hin)).1.trans (hv e (he.mem_iff.2 hin))⟩

theorem SolvedBy.of_sol_iff {N N' : ANet P F} {T : P → P → F} (hs : ∀ a b, N'.Sol a b ↔ N.Sol a b)
    (he : N.exposed.Perm N'.exposed) (h : N.SolvedBy T) : N'.SolvedBy T :=
  h.of_sol he (fun a b hab => ⟨a, b, (hs a b).2 hab, fun _ _ => ⟨rfl, rfl⟩⟩)
    fun a b hab => ⟨a, b, (hs a b).1 hab, fun _ _ => ⟨rfl, rfl⟩⟩

theorem solvedBy_of_sameOn (N N' : ANet P F)
    (hp : ∀ part' ∈ N'.parts, part'.1 ≠ [] →
      ∃ part ∈ N.parts, part.1 = part'.1 ∧ ∀ p ∈ part'.1, ∀ q ∈ part'.1, part.2 p q = part'.2 p q)
    (hp' : ∀ part ∈ N.parts, part.1 ≠ [] →
      ∃ part' ∈ N'.parts, part'.1 = part.1 ∧ ∀ p ∈ part.1, ∀ q ∈ part.1, part'.2 p q = part.2 p q)
    (hl : ∀ l, l ∈ N.links ↔ l ∈ N'.links) (he : N.exposed.Perm N'.exposed) (T : P → P → F)
    (h : N.SolvedBy T) : N'.SolvedBy T :=
  h.of_sol_iff (fun a b => ⟨sol_of_sameOn N' N hp' (fun l => (hl l).symm) (fun _ => he.mem_iff.symm) a b,
    sol_of_sameOn N N' hp hl (fun _ => he.mem_iff) a b⟩) he

variable [DecidableEq P]

theorem solvedBy_of_sameNE (N N' : ANet P F) (hp : ∀ part, part.1 ≠ [] → (part ∈ N.parts ↔ part ∈ N'.parts))
    (hl : ∀ l, l ∈ N.links ↔ l ∈ N'.links) (he : N.exposed.Perm N'.exposed) (T : P → P → F)
    (h : N.SolvedBy T) : N'.SolvedBy T :=
  solvedBy_of_sameOn N N' (fun part hpart hne => ⟨part, (hp part hne).2 hpart, rfl, fun _ _ _ _ => rfl⟩)
    (fun part hpart hne => ⟨part, (hp part hne).1 hpart, rfl, fun _ _ _ _ => rfl⟩) hl he T h

omit [DecidableEq P] in
theorem solvedBy_congr (N : ANet P F) (T T' : P → P → F)
    (h : ∀ x ∈ N.exposed, ∀ y ∈ N.exposed, T x y = T' x y) (hs : N.SolvedBy T) : N.SolvedBy T' :=
  ⟨fun a b hab e he => (hs.1 a b hab e he).trans (rowSum_congrS _ _ _ _ _ (h e he)), hs.2⟩

theorem solvedBy_unique (N : ANet P F) (hn : N.exposed.Nodup) (T T' : P → P → F) (h : N.SolvedBy T) (h' : N.SolvedBy T') :
    ∀ x ∈ N.exposed, ∀ y ∈ N.exposed, T x y = T' x y := by
  intro x hx y hy
  -- excite the pin `y` alone: both operators read off the same outgoing wave at `x`
  obtain ⟨a, b, hs, hv⟩ := h.2 (fun p => if p = y then 1 else 0)
  rw [← rowSum_indicator N.exposed hn T a x y hy hv, ← rowSum_indicator N.exposed hn T' a x y hy hv,
    ← h.1 a b hs x hx, ← h'.1 a b hs x hx]

/-- how a child network sits inside a parent: `out` are the parent's other parts, `Lp` the parent's links,
`E` the parent's exposure; the parent sees the child as one part `K` on the child's exposed pins -/
structure Placed (out : List (List P × (P → P → F))) (child : ANet P F) (Lp : List (P × P)) (E : List P) : Prop where
  /-- the child's pins are its own -/
  disjoint : ∀ part ∈ out, ∀ p ∈ part.1, ¬ child.pinSet p
  /-- the child's links stay inside the child -/
  childLinks : ∀ l ∈ child.links, child.pinSet l.1 ∧ child.pinSet l.2
  /-- exposed pins of the child are pins of the child and are free inside it -/
  expPins : ∀ e ∈ child.exposed, child.pinSet e ∧ ∀ q, ¬ child.Lnk e q
  /-- the parent reaches the child only through the child's exposed pins -/
  linkVia : ∀ l ∈ Lp, (child.pinSet l.1 → l.1 ∈ child.exposed) ∧ (child.pinSet l.2 → l.2 ∈ child.exposed)
  expVia : ∀ e ∈ E, child.pinSet e → e ∈ child.exposed

/-- the parent network: the other parts plus one part `K = (child.exposed, SK)` -/
def parent (out : List (List P × (P → P → F))) (child : ANet P F) (SK : P → P → F) (Lp : List (P × P)) (E : List P) : ANet P F :=
  { parts := out ++ [(child.exposed, SK)], links := Lp, exposed := E }

/-- the equivalent single-level network: the other parts plus the child's parts, all links -/
def inlined (out : List (List P × (P → P → F))) (child : ANet P F) (Lp : List (P × P)) (E : List P) : ANet P F :=
  { parts := out ++ child.parts, links := Lp ++ child.links, exposed := E }

variable {out : List (List P × (P → P → F))} {child : ANet P F} {Lp : List (P × P)} {E : List P}

omit [Field F] [DecidableEq P] in
theorem inlined_lnk (SK : P → P → F) (p q : P) :
    (inlined out child Lp E).Lnk p q ↔ ((parent out child SK Lp E).Lnk p q ∨ child.Lnk p q) :=
  lnk_append rfl p q

theorem inlined_lnk_iff (p q : P) : (inlined out child Lp E).Lnk p q ↔ ((parent out child (fun _ _ => 0) Lp E).Lnk p q ∨ child.Lnk p q) :=
  inlined_lnk _ p q

omit [DecidableEq P] in
theorem child_sol_of_inlined (pl : Placed out child Lp E) (a b : P → F) (h : (inlined out child Lp E).Sol a b) :
    child.Sol a b := by
  refine ⟨fun part hp => h.comp part (List.mem_append_right _ hp), fun l hl => h.link l (List.mem_append_right _ hl), ?_⟩
  intro part hp p hpp hfree hne
  refine h.free part (List.mem_append_right _ hp) p hpp (fun q hq => ?_) (fun hE => hne (pl.expVia p hE ⟨part, hp, hpp⟩))
  rcases (inlined_lnk (fun _ _ => 0) p q).1 hq with hq | hq
  · exact hne (hq.elim (fun h => (pl.linkVia _ h).1 ⟨part, hp, hpp⟩) fun h => (pl.linkVia _ h).2 ⟨part, hp, hpp⟩)
  · exact hfree q hq

omit [DecidableEq P] in
theorem parent_sol_of_inlined (pl : Placed out child Lp E) (Tc SK : P → P → F) (hTc : child.SolvedBy Tc)
    (hSK : ∀ p ∈ child.exposed, ∀ q ∈ child.exposed, SK p q = Tc p q)
    (a b : P → F) (h : (inlined out child Lp E).Sol a b) : (parent out child SK Lp E).Sol a b := by
  have hc := child_sol_of_inlined pl a b h
  refine ⟨?_, fun l hl => h.link l (List.mem_append_left _ hl), ?_⟩
  · intro part hp
    rcases List.mem_append.1 hp with hp | hp
    · exact h.comp part (List.mem_append_left _ hp)
    · rw [List.mem_singleton.1 hp]
      intro p hpe
      show b p = rowSum child.exposed SK a p
      rw [rowSum_congrS child.exposed SK Tc a p (hSK p hpe)]
      exact hTc.1 a b hc p hpe
  · intro part hp p hpp hfree hne
    -- the pin is a pin of a part of the single-level network, free there too
    have key : ∀ cp ∈ out ++ child.parts, p ∈ cp.1 → (∀ q, ¬ child.Lnk p q) → a p = 0 := fun cp hcp hpcp hnl =>
      h.free cp hcp p hpcp (fun q hq => ((inlined_lnk SK p q).1 hq).elim (hfree q) (hnl q)) hne
    rcases List.mem_append.1 hp with hp | hp
    · exact key part (List.mem_append_left _ hp) hpp fun q hq =>
        pl.disjoint part hp p hpp (hq.elim (fun h => (pl.childLinks _ h).1) fun h => (pl.childLinks _ h).2)
    · rw [List.mem_singleton.1 hp] at hpp
      obtain ⟨⟨cp, hcp, hpcp⟩, hnl⟩ := pl.expPins p hpp
      exact key cp (List.mem_append_right _ hcp) hpcp hnl

theorem inlined_sol_of_both (SK : P → P → F) {a b : P → F} (hp : (parent out child SK Lp E).Sol a b) (hc : child.Sol a b) :
    (inlined out child Lp E).Sol a b := by
  refine ⟨List.forall_mem_append.2 ⟨fun part h => hp.comp part (List.mem_append_left _ h), hc.comp⟩,
    List.forall_mem_append.2 ⟨hp.link, hc.link⟩, fun part hpart p hpp hfree hne => ?_⟩
  have hfP : ∀ q, ¬ (parent out child SK Lp E).Lnk p q := fun q hq => hfree q ((inlined_lnk SK p q).2 (.inl hq))
  rcases List.mem_append.1 hpart with h | h
  · exact hp.free part (List.mem_append_left _ h) p hpp hfP hne
  · -- a pin the child exposes is a pin of the part that stands for the child in the parent
    by_cases hpe : p ∈ child.exposed
    · exact hp.free _ (List.mem_append_right _ (List.mem_singleton.2 rfl)) p hpe hfP hne
    · exact hc.free part h p hpp (fun q hq => hfree q ((inlined_lnk SK p q).2 (.inr hq))) hpe

omit [Field F] [DecidableEq P] in
theorem Placed.seen (pl : Placed out child Lp E) (SK : P → P → F) {p : P} (h : (parent out child SK Lp E).Mentions p)
    (hin : child.pinSet p) : p ∈ child.exposed := by
  rcases h with ⟨part, hpart, hpp⟩ | ⟨l, hl, rfl | rfl⟩ | hE
  · rcases List.mem_append.1 hpart with h | h
    · exact absurd hin (pl.disjoint part h p hpp)
    · rwa [List.mem_singleton.1 h] at hpp
  exacts [(pl.linkVia l hl).1 hin, (pl.linkVia l hl).2 hin, pl.expVia p hE hin]

theorem inlined_sol_of_parent (pl : Placed out child Lp E) (Tc SK : P → P → F) (hTc : child.SolvedBy Tc)
    (hSK : ∀ p ∈ child.exposed, ∀ q ∈ child.exposed, SK p q = Tc p q)
    (a b : P → F) (h : (parent out child SK Lp E).Sol a b) :
    ∃ a' b', (inlined out child Lp E).Sol a' b' ∧
      ∀ p, (child.pinSet p → p ∈ child.exposed) → a' p = a p ∧ b' p = b p := by
  -- a solution of the child for the waves the parent sends into it: on the child's exposed pins it carries the parent's waves
  obtain ⟨ac, bc, hc, hv⟩ := hTc.2 a
  have hK : ∀ e ∈ child.exposed, ac e = a e ∧ bc e = b e := by
    intro e he
    refine ⟨hv e he, ?_⟩
    rw [hTc.1 ac bc hc e he, h.comp _ (List.mem_append_right _ (List.mem_singleton.2 rfl)) e he,
      rowSum_congrS child.exposed SK Tc a e (hSK e he)]
    exact rowSum_congr _ _ _ _ _ hv
  obtain ⟨a', b', sc, sp, -, g⟩ := sol_glue child.pinSet hc h
    (fun p => pinSet_of_mentions pl.childLinks fun e he => (pl.expPins e he).1) fun p hp hin => hK p (pl.seen SK hp hin)
  exact ⟨a', b', inlined_sol_of_both SK sp sc, fun p hp => g p fun hin => hK p (hp hin)⟩

/-- C02, one sub-circuit: the parent network, in which the child is one component carrying its solution operator `Tc` on its
exposed pins, and the single-level network of the same components and connections have the same solution operators (so
hierarchical and flat solves agree whichever is computed first) -/
theorem substitution_iff (pl : Placed out child Lp E) (Tc SK T : P → P → F) (hTc : child.SolvedBy Tc)
    (hSK : ∀ p ∈ child.exposed, ∀ q ∈ child.exposed, SK p q = Tc p q) :
    (parent out child SK Lp E).SolvedBy T ↔ (inlined out child Lp E).SolvedBy T := by
  have down := fun a b h => (inlined_sol_of_parent pl Tc SK hTc hSK a b h).imp fun _ h' => h'.imp fun _ h' =>
    And.intro h'.1 fun e he => h'.2 e (pl.expVia e he)
  have up := fun a b h => (⟨a, b, parent_sol_of_inlined pl Tc SK hTc hSK a b h, fun _ _ => ⟨rfl, rfl⟩⟩ :
    ∃ a' b', _ ∧ ∀ e ∈ E, a' e = a e ∧ b' e = b e)
  exact ⟨.of_sol (.refl _) down up, .of_sol (.refl _) up down⟩

theorem substitution (pl : Placed out child Lp E) (Tc SK T : P → P → F) (hTc : child.SolvedBy Tc)
    (hSK : ∀ p ∈ child.exposed, ∀ q ∈ child.exposed, SK p q = Tc p q)
    (hT : (parent out child SK Lp E).SolvedBy T) : (inlined out child Lp E).SolvedBy T :=
  (substitution_iff pl Tc SK T hTc hSK).1 hT

theorem substitution_conv (pl : Placed out child Lp E) (Tc SK T : P → P → F) (hTc : child.SolvedBy Tc)
    (hSK : ∀ p ∈ child.exposed, ∀ q ∈ child.exposed, SK p q = Tc p q)
    (hT : (inlined out child Lp E).SolvedBy T) : (parent out child SK Lp E).SolvedBy T :=
  (substitution_iff pl Tc SK T hTc hSK).2 hT

omit [DecidableEq P] in
/-- two sub-networks side by side (C10: circuit and monitored part): a solution of the whole solves the two-component network
in which each side is replaced by its solution operator, with the same waves, in particular on the links between the sides -/
theorem pair_sol_of_whole (mainNet monNet : ANet P F) (links : List (P × P)) (E : List P) (TA TB : P → P → F)
    (hA : mainNet.SolvedBy TA) (hB : monNet.SolvedBy TB)
    (plB : Placed mainNet.parts monNet (links ++ mainNet.links) E)
    (plA : Placed [(monNet.exposed, TB)] mainNet links E)
    (a b : P → F) (h : (inlined mainNet.parts monNet (links ++ mainNet.links) E).Sol a b) :
    (parent [(monNet.exposed, TB)] mainNet TA links E).Sol a b := by
  have h1 := parent_sol_of_inlined plB TB TB hB (fun _ _ _ _ => rfl) a b h
  have h2 : (inlined [(monNet.exposed, TB)] mainNet links E).Sol a b := by
    apply sol_of_sameNE _ _ _ _ _ a b h1
    · exact fun part _ => List.perm_append_comm.mem_iff
    · intro l; rfl
    · intro e; rfl
  exact parent_sol_of_inlined plA TA TA hA (fun _ _ _ _ => rfl) a b h2

end ANet
