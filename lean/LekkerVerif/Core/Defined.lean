import LekkerVerif.Core.RefineAdd
import LekkerVerif.Core.SolveSpec
import LekkerVerif.Core.GaussJordanComplete
import LekkerVerif.Core.Batch

/-! The star product is defined exactly when the inner system is invertible: on well-formed operands the three outcomes
of `SMat.add?` (`SMat.add?_cases`) are told apart by the inner dimensions and by `IsUnit (1 - A.S12 * B.S21)`.  Beyond
soundness (`add?_spec`) this needs that the certified executable inverse decides invertibility
(`Mat.inv?_isSome_iff`), so the star product cannot fail spuriously.  What needs no arithmetic (the two kinds of error, the
dimension guard, the slice-wise `addBatch`) is stated for every `Scalar`. -/

namespace SMat

section Scalar
variable {F : Type} [Scalar F]

theorem add?_error_cases (A B : SMat F) (e : Err) (h : A.add? B = .error e) :
    e = .dimension ∨ e = .singular := by
  rcases add?_cases A B with ⟨_, e'⟩ | ⟨_, _, e'⟩ | ⟨_, _, _, e'⟩ <;> cases e'.symm.trans h
  · exact .inl rfl
  · exact .inr rfl

theorem add?_dimension_iff (A B : SMat F) : A.add? B = .error .dimension ↔ A.M ≠ B.N := by
  rcases add?_cases A B with ⟨hM, e⟩ | ⟨hM, _, e⟩ | ⟨hM, _, _, e⟩ <;> rw [e]
  · exact iff_of_true rfl hM
  · exact iff_of_false (nomatch ·) fun h => h hM
  · exact iff_of_false (nomatch ·) fun h => h hM

/-- a batched join equals the join of each slice -/
theorem addBatch_spec (As Bs Cs : List (SMat F)) (hl : As.length = Bs.length)
    (h : SMat.addBatch As Bs = .ok Cs) :
    Cs.length = As.length ∧ ∀ i (hi : i < As.length) (hj : i < Bs.length) (hk : i < Cs.length),
      As[i].add? Bs[i] = .ok Cs[i] := by
  fun_induction SMat.addBatch As Bs generalizing Cs with
  | case1 => cases h; exact ⟨rfl, fun i _ _ hk => absurd hk (Nat.not_lt_zero i)⟩
  | case2 => cases h; exact ⟨hl.symm, fun i _ _ hk => absurd hk (Nat.not_lt_zero i)⟩
  | case3 | case4 => cases h
  | case5 a as b bs c hc cs hcs ih =>
    cases h
    obtain ⟨hlen, hall⟩ := ih cs (Nat.succ.inj hl) hcs
    refine ⟨congrArg Nat.succ hlen, fun i hi hj hk => ?_⟩
    cases i with
    | zero => exact hc
    | succ i => exact hall i (Nat.lt_of_succ_lt_succ hi) (Nat.lt_of_succ_lt_succ hj) (Nat.lt_of_succ_lt_succ hk)

end Scalar

variable {F : Type} [Field F] [DecidableEq F]

theorem inv?_inner_isSome (A B : SMat F) (hA : A.WF) (hB : B.WF) (hM : A.M = B.N) :
    ((Mat.inv? (Mat.sub (Mat.one A.M) (Mat.mul A.S12 B.S21))).isSome = true ∧
     (Mat.inv? (Mat.sub (Mat.one A.M) (Mat.mul B.S21 A.S12))).isSome = true) ↔
    IsUnit (1 - (A.toSM A.N A.M).S12 * (B.toSM A.M B.M).S21) := by
  rw [Mat.inv?_isSome_iff _ A.M (by simp) (by simp), Mat.inv?_isSome_iff _ A.M (by simp) (by simp),
    inner_eq A B hA hB hM, inner_eq' A B hA hB hM]
  constructor
  · exact fun h => h.1
  · exact fun h => ⟨h, isUnit_swap _ _ h⟩

theorem add?_trichotomy (A B : SMat F) (hA : A.WF) (hB : B.WF) :
    (A.M ≠ B.N ∧ A.add? B = .error .dimension) ∨
    (A.M = B.N ∧ ¬ IsUnit (1 - (A.toSM A.N A.M).S12 * (B.toSM A.M B.M).S21) ∧
      A.add? B = .error .singular) ∨
    (A.M = B.N ∧ IsUnit (1 - (A.toSM A.N A.M).S12 * (B.toSM A.M B.M).S21) ∧
      ∃ C, A.add? B = .ok C) := by
  rcases add?_cases A B with h | ⟨hM, hn, e⟩ | ⟨hM, hs, e⟩
  · exact .inl h
  · exact .inr (.inl ⟨hM, mt (inv?_inner_isSome A B hA hB hM).2 hn, e⟩)
  · exact .inr (.inr ⟨hM, (inv?_inner_isSome A B hA hB hM).1 hs, e⟩)

theorem add?_ok_iff (A B : SMat F) (hA : A.WF) (hB : B.WF) :
    (∃ C, A.add? B = .ok C) ↔
      (A.M = B.N ∧ IsUnit (1 - (A.toSM A.N A.M).S12 * (B.toSM A.M B.M).S21)) := by
  rcases add?_trichotomy A B hA hB with ⟨hM, e⟩ | ⟨_, hU, e⟩ | ⟨hM, hU, C, e⟩ <;> rw [e]
  · exact iff_of_false (fun ⟨_, h⟩ => nomatch h) fun h => hM h.1
  · exact iff_of_false (fun ⟨_, h⟩ => nomatch h) fun h => hU h.2
  · exact iff_of_true ⟨C, rfl⟩ ⟨hM, hU⟩

theorem add?_singular_iff (A B : SMat F) (hA : A.WF) (hB : B.WF) :
    A.add? B = .error .singular ↔
      (A.M = B.N ∧ ¬ IsUnit (1 - (A.toSM A.N A.M).S12 * (B.toSM A.M B.M).S21)) := by
  rcases add?_trichotomy A B hA hB with ⟨hM, e⟩ | ⟨hM, hU, e⟩ | ⟨_, hU, C, e⟩ <;> rw [e]
  · exact iff_of_false (nomatch ·) fun h => hM h.1
  · exact iff_of_true rfl ⟨hM, hU⟩
  · exact iff_of_false (nomatch ·) fun h => h.2 hU

end SMat
