import LekkerVerif.Core.Subst

/-! Abstract networks under a renaming of their pins: the renamed network has the renamed solutions and the transported
operator, and the renaming only has to be injective on the pins the description mentions.  Then a level with all its
children substituted at once (`ANet.substitution_all`: `ANet.substitution`, child after child). -/

namespace ANet
variable {F : Type*} [Field F] {P Q : Type*}

/-- rename every pin by `f`; the pin-keyed matrices are transported through `g` (a left inverse of `f` where it matters) -/
def map (f : P → Q) (g : Q → P) (N : ANet P F) : ANet Q F :=
  { parts := N.parts.map fun part => (part.1.map f, fun q q' => part.2 (g q) (g q')),
    links := N.links.map fun l => (f l.1, f l.2),
    exposed := N.exposed.map f }

variable {f : P → Q} {g : Q → P} {N : ANet P F}

omit [Field F] in
theorem map_inj (hg : ∀ p, N.Mentions p → g (f p) = p) {p p' : P} (hp : N.Mentions p) (hp' : N.Mentions p')
    (h : f p = f p') : p = p' := by
  rw [← hg p hp, h, hg p' hp']

theorem rowSum_map_left (hg : ∀ p, N.Mentions p → g (f p) = p) (l : List P) (hl : ∀ p ∈ l, N.Mentions p)
    (S : P → P → F) (a' : Q → F) (p : P) (hp : N.Mentions p) :
    rowSum (l.map f) (fun q q' => S (g q) (g q')) a' (f p) = rowSum l S (a' ∘ f) p := by
  rw [rowSum_map]
  exact congrArg List.sum (List.map_congr_left fun q hq => by rw [hg p hp, hg q (hl q hq)]; rfl)

omit [Field F] in
theorem map_free_iff (hg : ∀ p, N.Mentions p → g (f p) = p) (p : P) (hp : N.Mentions p) :
    (∀ q', ¬ (N.map f g).Lnk (f p) q') ↔ ∀ q, ¬ N.Lnk p q := by
  refine ⟨fun h q hq => h (f q) (hq.imp (List.mem_map_of_mem (f := fun l : P × P => (f l.1, f l.2)))
    (List.mem_map_of_mem (f := fun l : P × P => (f l.1, f l.2)))), fun h q' hq' => ?_⟩
  rcases hq' with h' | h' <;> obtain ⟨l, hl, e⟩ := List.mem_map.1 h'
  · have : l.1 = p := map_inj hg (mentions_fst hl) hp (Prod.mk.inj e).1
    exact h l.2 (.inl (this ▸ hl))
  · have : l.2 = p := map_inj hg (mentions_snd hl) hp (Prod.mk.inj e).2
    exact h l.1 (.inr (this ▸ hl))

omit [Field F] in
theorem map_mem_exposed_iff (hg : ∀ p, N.Mentions p → g (f p) = p) (p : P) (hp : N.Mentions p) :
    f p ∈ (N.map f g).exposed ↔ p ∈ N.exposed := by
  refine ⟨fun h => ?_, List.mem_map_of_mem⟩
  obtain ⟨e, he, h⟩ := List.mem_map.1 h
  exact map_inj hg (mentions_exposed he) hp h ▸ he

theorem map_sol_iff (hg : ∀ p, N.Mentions p → g (f p) = p) (a' b' : Q → F) :
    (N.map f g).Sol a' b' ↔ N.Sol (a' ∘ f) (b' ∘ f) := by
  -- part by part and pin by pin, the equations of the renamed network are those of the original
  have hm : ∀ part ∈ N.parts, ∀ p ∈ part.1, N.Mentions p := fun part hp p hpp => mentions_pin hp hpp
  have comp : ∀ part ∈ N.parts, ∀ p ∈ part.1,
      rowSum (part.1.map f) (fun q q' => part.2 (g q) (g q')) a' (f p) = rowSum part.1 part.2 (a' ∘ f) p :=
    fun part hp p hpp => rowSum_map_left hg part.1 (hm part hp) part.2 a' p (hm part hp p hpp)
  constructor
  · intro h
    refine ⟨fun part hp p hpp => ?_, fun l hl => h.link _ (List.mem_map_of_mem hl), fun part hp p hpp hfree hne => ?_⟩
    · exact (h.comp _ (List.mem_map_of_mem hp) _ (List.mem_map_of_mem hpp)).trans (comp part hp p hpp)
    · exact h.free _ (List.mem_map_of_mem hp) _ (List.mem_map_of_mem hpp) ((map_free_iff hg p (hm part hp p hpp)).2 hfree)
        (mt (map_mem_exposed_iff hg p (hm part hp p hpp)).1 hne)
  · intro h
    refine ⟨List.forall_mem_map.2 fun part hp => List.forall_mem_map.2 fun p hpp => ?_, List.forall_mem_map.2 h.link,
      List.forall_mem_map.2 fun part hp => List.forall_mem_map.2 fun p hpp hfree hne => ?_⟩
    · exact (h.comp part hp p hpp).trans (comp part hp p hpp).symm
    · exact h.free part hp p hpp ((map_free_iff hg p (hm part hp p hpp)).1 hfree)
        (mt (map_mem_exposed_iff hg p (hm part hp p hpp)).2 hne)

theorem Sol.map [DecidableEq P] (hg : ∀ p, N.Mentions p → g (f p) = p) {a b : P → F} (hs : N.Sol a b) :
    (N.map f g).Sol (a ∘ g) (b ∘ g) :=
  (map_sol_iff hg _ _).2 (hs.congr fun p hp => by simp only [Function.comp, hg p hp, and_self])

/-- `f` only has to be injective on the pins the description mentions (`g` undoes it there): the situation of a wrapping
structure whose pins are the child's exposed names instead of the child's exposed internal pins -/
theorem map_solvedBy [DecidableEq P] (hg : ∀ p, N.Mentions p → g (f p) = p) (T : P → P → F) (h : N.SolvedBy T) :
    (N.map f g).SolvedBy (fun q q' => T (g q) (g q')) := by
  have hE : ∀ e ∈ N.exposed, N.Mentions e := fun e => mentions_exposed
  refine ⟨fun a' b' hs => List.forall_mem_map.2 fun e he => ?_, fun v' => ?_⟩
  · exact (h.1 _ _ ((map_sol_iff hg a' b').1 hs) e he).trans (rowSum_map_left hg N.exposed hE T a' e (hE e he)).symm
  · obtain ⟨a, b, hs, hv⟩ := h.2 (v' ∘ f)
    exact ⟨a ∘ g, b ∘ g, hs.map hg, List.forall_mem_map.2 fun e he => (congrArg a (hg e (hE e he))).trans (hv e he)⟩

theorem solvedBy_of_map [DecidableEq P] (hg : ∀ p, N.Mentions p → g (f p) = p) (T' : Q → Q → F) (h : (N.map f g).SolvedBy T') :
    N.SolvedBy (fun p p' => T' (f p) (f p')) := by
  have hE : ∀ e ∈ N.exposed, N.Mentions e := fun e => mentions_exposed
  refine ⟨fun a b hs e he => ?_, fun v => ?_⟩
  · have := h.1 _ _ (hs.map hg) (f e) (List.mem_map_of_mem he)
    rw [Function.comp, hg e (hE e he)] at this
    rw [this]
    exact (rowSum_map f N.exposed T' _ (f e)).trans
      (congrArg List.sum (List.map_congr_left fun q hq => by rw [Function.comp, hg q (hE q hq)]))
  · obtain ⟨a', b', hs, hv⟩ := h.2 (v ∘ g)
    exact ⟨a' ∘ f, b' ∘ f, (map_sol_iff hg _ _).1 hs, fun e he =>
      (hv (f e) (List.mem_map_of_mem he)).trans (congrArg v (hg e (hE e he)))⟩

theorem map_solvedBy_iff [DecidableEq P] (hg : Function.LeftInverse g f) (T : P → P → F) :
    (N.map f g).SolvedBy (fun q q' => T (g q) (g q')) ↔ N.SolvedBy T := by
  constructor
  · intro h
    have := solvedBy_of_map (fun p _ => hg p) _ h
    simpa only [hg _] using this
  · exact map_solvedBy (fun p _ => hg p) T

omit [Field F] in
theorem pinSet_map (q : Q) : (N.map f g).pinSet q ↔ ∃ p, N.pinSet p ∧ q = f p := by
  unfold pinSet map
  simp only [List.mem_map]
  constructor
  · rintro ⟨part', ⟨part, hp, rfl⟩, hq⟩
    obtain ⟨p, hpp, rfl⟩ := List.mem_map.1 hq
    exact ⟨p, ⟨part, hp, hpp⟩, rfl⟩
  · rintro ⟨p, ⟨part, hp, hpp⟩, rfl⟩
    exact ⟨_, ⟨part, hp, rfl⟩, List.mem_map.2 ⟨p, hpp, rfl⟩⟩

/-- a sub-network keeps to itself: its links join its own pins, its exposed pins are its own and free inside it -/
structure ClosedFree (N : ANet P F) : Prop where
  links : ∀ l ∈ N.links, N.pinSet l.1 ∧ N.pinSet l.2
  exposed : ∀ e ∈ N.exposed, N.pinSet e ∧ ∀ q, ¬ N.Lnk e q

omit [Field F] in
theorem ClosedFree.map (hg : Function.LeftInverse g f) (h : N.ClosedFree) : (N.map f g).ClosedFree := by
  refine ⟨List.forall_mem_map.2 fun l hl => ?_, List.forall_mem_map.2 fun e he => ?_⟩
  · exact ⟨(pinSet_map _).2 ⟨l.1, (h.links l hl).1, rfl⟩, (pinSet_map _).2 ⟨l.2, (h.links l hl).2, rfl⟩⟩
  · exact ⟨(pinSet_map _).2 ⟨e, (h.exposed e he).1, rfl⟩,
      (map_free_iff (fun p _ => hg p) e (mentions_exposed he)).2 (h.exposed e he).2⟩

end ANet

namespace ANet
variable {F : Type*} [Field F] {P : Type*} [DecidableEq P]

/-- several sub-networks side by side, each seen as one part on its exposed pins (with the matrix `cs.2`) -/
def wrapped (out : List (List P × (P → P → F))) (Cs : List (ANet P F × (P → P → F))) (L : List (P × P)) (E : List P) :
    ANet P F :=
  { parts := out ++ Cs.map (fun cs => (cs.1.exposed, cs.2)), links := L, exposed := E }

/-- the same with every sub-network inlined -/
def inlinedAll (out : List (List P × (P → P → F))) (Cs : List (ANet P F × (P → P → F))) (L : List (P × P)) (E : List P) :
    ANet P F :=
  { parts := out ++ Cs.flatMap (·.1.parts), links := L ++ Cs.flatMap (·.1.links), exposed := E }

/-- all children of a level at once: if every sub-network is solved by the matrix its wrapper carries, the sub-networks are
closed and pairwise disjoint, and the level reaches them only through their exposed pins, then an operator of the level
with wrappers is an operator of the level with everything inlined -/
theorem substitution_all : ∀ (Cs : List (ANet P F × (P → P → F))) (out : List (List P × (P → P → F)))
    (L : List (P × P)) (E : List P) (T : P → P → F),
    (∀ cs ∈ Cs, ∃ Tc, cs.1.SolvedBy Tc ∧ ∀ p ∈ cs.1.exposed, ∀ q ∈ cs.1.exposed, cs.2 p q = Tc p q) →
    (∀ cs ∈ Cs, cs.1.ClosedFree) →
    (∀ part ∈ out, ∀ p ∈ part.1, ∀ cs ∈ Cs, ¬ cs.1.pinSet p) →
    Cs.Pairwise (fun c d => ∀ p, c.1.pinSet p → ¬ d.1.pinSet p) →
    (∀ l ∈ L, ∀ cs ∈ Cs, (cs.1.pinSet l.1 → l.1 ∈ cs.1.exposed) ∧ (cs.1.pinSet l.2 → l.2 ∈ cs.1.exposed)) →
    (∀ e ∈ E, ∀ cs ∈ Cs, cs.1.pinSet e → e ∈ cs.1.exposed) →
    (wrapped out Cs L E).SolvedBy T → (inlinedAll out Cs L E).SolvedBy T := by
  intro Cs
  induction Cs with
  | nil =>
    intro out L E T _ _ _ _ _ _ h
    simpa [wrapped, inlinedAll] using h
  | cons c rest ih =>
    intro out L E T hsolved hclosed hout hpair hL hE h
    obtain ⟨⟨Tc, hTc, hSK⟩, hsolved⟩ := List.forall_mem_cons.1 hsolved
    obtain ⟨hc, hclosed⟩ := List.forall_mem_cons.1 hclosed
    obtain ⟨hc_rest, hpair⟩ := List.pairwise_cons.1 hpair
    have hout := fun part hp p hpp => List.forall_mem_cons.1 (hout part hp p hpp)
    have hL := fun l hl => List.forall_mem_cons.1 (hL l hl)
    have hE := fun e he => List.forall_mem_cons.1 (hE e he)
    -- `c` substituted, its wrapper moved to the end
    have pl : Placed (out ++ rest.map fun cs => (cs.1.exposed, cs.2)) c.1 L E := by
      refine ⟨fun part hp p hpp hcp => ?_, hc.links, hc.exposed, fun l hl => (hL l hl).1, fun e he => (hE e he).1⟩
      rcases List.mem_append.1 hp with hp | hp
      · exact (hout part hp p hpp).1 hcp
      · obtain ⟨d, hd, rfl⟩ := List.mem_map.1 hp
        exact hc_rest d hd p hcp ((hclosed d hd).exposed p hpp).1
    -- the same parts in another order, those without pins included: the part hypothesis holds of every part
    have h1 : (parent (out ++ rest.map fun cs => (cs.1.exposed, cs.2)) c.1 c.2 L E).SolvedBy T := by
      refine solvedBy_of_sameNE _ _ (fun _ _ => ?_) (fun _ => ?_) ?_ T h
      exacts [(List.perm_middle.trans (List.perm_append_singleton _ _).symm).mem_iff, .rfl, .rfl]
    have h2 := substitution pl Tc c.2 T hTc hSK h1
    -- then the rest, with the parts and links of `c` among the outer ones
    have h3 : (wrapped (out ++ c.1.parts) rest (L ++ c.1.links) E).SolvedBy T := by
      refine solvedBy_of_sameNE _ _ (fun part _ => ?_) (fun _ => ?_) ?_ T h2
      · show part ∈ (out ++ _) ++ c.1.parts ↔ part ∈ (out ++ c.1.parts) ++ _
        rw [List.append_assoc, List.append_assoc]
        exact (List.perm_append_comm.append_left out).mem_iff
      exacts [.rfl, .rfl]
    have h4 := ih (out ++ c.1.parts) (L ++ c.1.links) E T hsolved hclosed
      (fun part hp p hpp d hd => (List.mem_append.1 hp).elim (fun hp => (hout part hp p hpp).2 d hd)
        fun hp => hc_rest d hd p ⟨part, hp, hpp⟩)
      hpair
      -- a link of `c` joins pins of `c`, and no pin of `c` is a pin of another child `d`: for it both implications are vacuous
      (fun l hl d hd => (List.mem_append.1 hl).elim (fun hl => (hL l hl).2 d hd) fun hl =>
        ⟨fun h1 => absurd h1 (hc_rest d hd _ (hc.links l hl).1), fun h2 => absurd h2 (hc_rest d hd _ (hc.links l hl).2)⟩)
      (fun e he => (hE e he).2) h3
    simpa [inlinedAll, List.append_assoc] using h4

end ANet
