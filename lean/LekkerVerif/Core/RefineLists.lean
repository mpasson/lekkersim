import LekkerVerif.Core.Join
import Mathlib.Data.List.Basic
import Mathlib.Data.List.Perm.Basic
import Mathlib.Data.List.Nodup
import Mathlib.Data.List.Forall2
import Mathlib.Data.List.Perm.Subperm

/-! list-level facts about the transcription: success of a bind and of a `mapM` in `Except`, `lookupL` on tables with
distinct keys, `removeAll` as multiset difference (a filter on duplicate-free lists) -/

theorem Except.bind_eq_ok {ε α β : Type} {x : Except ε α} {f : α → Except ε β} {b : β} :
    (x >>= f) = .ok b ↔ ∃ a, x = .ok a ∧ f a = .ok b := by
  cases x with
  | error e => exact ⟨(nomatch ·), fun ⟨_, h, _⟩ => nomatch h⟩
  | ok a => exact ⟨fun h => ⟨a, rfl, h⟩, fun ⟨_, h, hf⟩ => by cases h; exact hf⟩

theorem Except.exists_of_isOk {ε α : Type} : ∀ {r : Except ε α}, r.isOk = true → ∃ c, r = .ok c
  | .ok c, _ => ⟨c, rfl⟩

theorem List.mapM_except_ok_iff {α β ε : Type} (f : α → Except ε β) :
    ∀ {l : List α} {r : List β}, l.mapM f = .ok r ↔ List.Forall₂ (fun x y => f x = .ok y) l r
  | [], r => by
    rw [List.mapM_nil, List.forall₂_nil_left_iff]
    exact ⟨fun h => by cases h; rfl, fun h => h ▸ rfl⟩
  | x :: xs, r => by
    rw [List.mapM_cons]
    constructor
    · intro h
      obtain ⟨y, hy, h⟩ := Except.bind_eq_ok.1 h
      obtain ⟨ys, hys, h⟩ := Except.bind_eq_ok.1 h
      cases h
      exact .cons hy ((List.mapM_except_ok_iff f).1 hys)
    · rintro (_ | ⟨hy, hys⟩)
      rw [hy, (List.mapM_except_ok_iff f).2 hys]
      rfl

theorem key_unique {α β : Type} (l : List (α × β)) (hnd : (l.map (·.1)).Nodup) (k : α) (v v' : β)
    (h1 : (k, v) ∈ l) (h2 : (k, v') ∈ l) : v = v' :=
  congrArg Prod.snd (List.inj_on_of_nodup_map hnd h1 h2 rfl)

section lookupL
variable {α β : Type} [BEq α] [LawfulBEq α]

theorem lookupL_mem (l : List (α × β)) (k : α) (v : β) (h : lookupL l k = some v) : (k, v) ∈ l := by
  obtain ⟨⟨k', v'⟩, hf, rfl⟩ := Option.map_eq_some_iff.1 h
  obtain rfl : k' = k := by simpa using List.find?_some hf
  exact List.mem_of_find?_eq_some hf

theorem lookupL_isSome_iff (l : List (α × β)) (k : α) : (lookupL l k).isSome = true ↔ k ∈ l.map (·.1) := by
  unfold lookupL
  rw [Option.isSome_map, List.find?_isSome]
  simp only [beq_iff_eq, List.mem_map]

theorem lookupL_of_mem (l : List (α × β)) (hnd : (l.map (·.1)).Nodup) (k : α) (v : β) (h : (k, v) ∈ l) :
    lookupL l k = some v := by
  obtain ⟨e, he⟩ : ∃ e, l.find? (·.1 == k) = some e :=
    Option.isSome_iff_exists.1 (List.find?_isSome.2 ⟨(k, v), h, beq_self_eq_true k⟩)
  rw [lookupL, he, List.inj_on_of_nodup_map hnd (List.mem_of_find?_eq_some he) h (by simpa using List.find?_some he)]
  rfl

theorem lookupL_zipIdx (l : List α) (i : Nat) (h : i < l.length) (hnd : l.Nodup) :
    lookupL l.zipIdx l[i] = some i :=
  lookupL_of_mem _ (by rwa [List.zipIdx_map_fst]) _ _ (List.mem_zipIdx_iff_getElem?.2 (List.getElem?_eq_getElem h))

end lookupL

theorem removeAll_ok_iff : ∀ {xs l r : List PinRef}, removeAll l xs = .ok r ↔ xs.Subperm l ∧ r = l.diff xs
  | [], l, r => by
    rw [removeAll, List.diff_nil]
    exact ⟨fun h => ⟨List.nil_subperm, by cases h; rfl⟩, fun h => h.2 ▸ rfl⟩
  | x :: xs, l, r => by
    rw [removeAll]
    by_cases hx : x ∈ l
    · rw [if_pos (List.contains_iff_mem.2 hx), removeAll_ok_iff, List.diff_cons]
      refine and_congr_left fun _ => ⟨fun h => ?_, fun h => ?_⟩
      · exact ((List.subperm_cons x).2 h).trans (List.perm_cons_erase hx).symm.subperm
      · simpa using h.erase x
    · rw [if_neg (by simpa using hx)]
      exact ⟨(nomatch ·), fun h => (hx (h.1.subset List.mem_cons_self)).elim⟩

theorem removeAll_eq_filter (xs l r : List PinRef) (hl : l.Nodup) (h : removeAll l xs = .ok r) :
    r = l.filter (fun p => !xs.contains p) ∧ (∀ x ∈ xs, x ∈ l) ∧ xs.Nodup := by
  obtain ⟨⟨l', hp, hs⟩, rfl⟩ := removeAll_ok_iff.1 h
  refine ⟨?_, fun x hx => hs.subset (hp.symm.subset hx), hp.nodup_iff.1 (hl.sublist hs)⟩
  rw [hl.sdiff_eq_filter]
  exact List.filter_congr fun p _ => by simp

theorem perm_filter_split (l xs : List PinRef) (hl : l.Nodup) (hx : xs.Nodup) (hsub : ∀ x ∈ xs, x ∈ l) :
    l.Perm (l.filter (fun p => !xs.contains p) ++ xs) := by
  refine ((List.filter_append_perm (fun p => !xs.contains p) l).symm).trans (List.Perm.append_left _ ?_)
  apply (List.perm_ext_iff_of_nodup (hl.filter _) hx).2
  intro a
  simp only [List.mem_filter, Bool.not_not, List.contains_iff_mem]
  exact ⟨fun h => h.2, fun h => ⟨hsub a h, h⟩⟩

theorem removeAll_perm {l xs r : List PinRef} (hl : l.Nodup) (h : removeAll l xs = .ok r) : l.Perm (r ++ xs) := by
  obtain ⟨rfl, hsub, hx⟩ := removeAll_eq_filter _ _ _ hl h
  exact perm_filter_split l xs hl hx hsub

theorem filter_append_disjoint (l1 l2 xs ys : List PinRef)
    (hx : ∀ x ∈ xs, x ∈ l1) (hy : ∀ y ∈ ys, y ∈ l2) (hd : ∀ p, p ∈ l1 → p ∈ l2 → False) :
    (l1 ++ l2).filter (fun p => !(xs ++ ys).contains p)
      = l1.filter (fun p => !xs.contains p) ++ l2.filter (fun p => !ys.contains p) := by
  rw [List.filter_append]
  congr 1 <;> apply List.filter_congr <;> intro p hp
  · have : p ∉ ys := fun h => hd p hp (hy p h)
    simp [this]
  · have : p ∉ xs := fun h => hd p (hx p h) hp
    simp [this]
