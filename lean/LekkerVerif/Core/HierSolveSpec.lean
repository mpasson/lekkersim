import LekkerVerif.Core.HierSolve
import LekkerVerif.Core.HierLists
import LekkerVerif.Core.Complete
import LekkerVerif.Core.NetMap

/-! One level of `HNet.solveH` (Core/HierSolve.lean), over every field and every merge schedule: a successful solve of a node
is the children's solves, the elimination loop on the level whose components are their results, and `extract`, which is
faithful (`NetD.extract_sem`); so by C01 the component handed up carries the solution operator of that level.
`HNet.WFTree` is well-formedness stated on the description alone, level by level `HNet.LevelOK` on the pin names the children
present; on the children's results it is the hypotheses of C01 (`HNet.levelOK_iff_wf`).  `HNet.Wired` is what `LevelOK` says
about links and exposures, over pins `K × String` for any kind of address `K`, so that it can be stated of one level (`K` a
child position) and of a whole hierarchy (`K` the path of a leaf) alike. -/

open NetD Solve

namespace HNet
variable {F : Type}

/-- the recursor of the nested inductive type, the motive on lists of children filled in -/
theorem induction {motive : HNet F → Prop} (leaf : ∀ c, motive (.leaf c))
    (node : ∀ cs links exposed, (∀ h ∈ cs, motive h) → motive (.node cs links exposed)) : ∀ h, motive h := by
  intro h
  refine HNet.rec (motive_1 := motive) (motive_2 := fun cs => ∀ h ∈ cs, motive h) leaf ?_ ?_ ?_ h
  · intro cs links exposed ih; exact node cs links exposed ih
  · intro h hh; cases hh
  · intro hd tl ih1 ih2 h hh
    rcases List.mem_cons.1 hh with rfl | hh
    · exact ih1
    · exact ih2 h hh

end HNet

section levels
variable {F : Type} [Field F] [DecidableEq F]

theorem NetD.mem_toANet_parts {net : NetD F} {part : List PinRef × (PinRef → PinRef → F)} :
    part ∈ net.toANet.parts ↔ ∃ k c, net.comps[k]? = some c ∧ part = ((net.mkSt k c).pins, (net.mkSt k c).sem) := by
  constructor
  · intro hp
    obtain ⟨s, hs, rfl⟩ := List.mem_map.1 hp
    obtain ⟨k, c, hk, rfl⟩ := (mem_initial net s).1 hs
    exact ⟨k, c, hk, rfl⟩
  · rintro ⟨k, c, hk, rfl⟩
    exact List.mem_map.2 ⟨_, (mem_initial net _).2 ⟨k, c, hk, rfl⟩, rfl⟩

theorem NetD.pinSet_toANet (net : NetD F) (r : PinRef) :
    net.toANet.pinSet r ↔ ∃ c, net.comps[r.1]? = some c ∧ r.2 ∈ c.pins := by
  refine Iff.trans ⟨?_, fun ⟨s, hs, hr⟩ => ⟨_, List.mem_map_of_mem hs, hr⟩⟩ (mem_initial_pins net r)
  rintro ⟨_, hp, hr⟩
  obtain ⟨s, hs, rfl⟩ := List.mem_map.1 hp
  exact ⟨s, hs, hr⟩

theorem NetD.mentions_pin {net : NetD F} (wf : net.WF) (ex : net.ExposureOK) {r : PinRef} (h : net.toANet.Mentions r) :
    ∃ c, net.comps[r.1]? = some c ∧ r.2 ∈ c.pins := by
  rcases h with h | ⟨l, hl, h⟩ | h
  · exact (pinSet_toANet net r).1 h
  · exact wf.endsPins l hl r h
  · obtain ⟨e, he, rfl⟩ := List.mem_map.1 h
    exact (mem_initial_pins net e.2).1 (ex.free e he).1

/-- `extract` is faithful; the names have to be distinct because it finds its rows and columns by name -/
theorem NetD.extract_sem (net : NetD F) (total : St F) (hn : (net.exposed.map (·.1)).Nodup)
    (x y : String × PinRef) (hx : x ∈ net.exposed) (hy : y ∈ net.exposed) :
    (net.extract total).sem x.1 y.1 = total.sem x.2 y.2 := by
  obtain ⟨i, hi, rfl⟩ := List.getElem_of_mem hx
  obtain ⟨j, hj, rfl⟩ := List.getElem_of_mem hy
  have hi' : i < (net.exposed.map (·.1)).length := by rw [List.length_map]; exact hi
  have hj' : j < (net.exposed.map (·.1)).length := by rw [List.length_map]; exact hj
  have li := lookupL_zipIdx (net.exposed.map (·.1)) i hi' hn
  have lj := lookupL_zipIdx (net.exposed.map (·.1)) j hj' hn
  rw [List.getElem_map] at li lj
  have ea : ∀ k (hk : k < net.exposed.length), (net.exposed.map (·.2)).toArray[k]! = net.exposed[k].2 := fun k hk => by
    rw [getElem!_pos _ _ (by rw [List.size_toArray, List.length_map]; exact hk), List.getElem_toArray, List.getElem_map]
  unfold CompD.sem NetD.extract
  simp only [li, lj]
  rw [Mat.get_ofFn _ _ _ _ _ hi' hj', ea i hi, ea j hj]

theorem NetD.extract_sem_placed (net : NetD F) (total : St F) (hn : (net.exposed.map (·.1)).Nodup)
    (parent : NetD F) (k : Nat) (x y : String × PinRef) (hx : x ∈ net.exposed) (hy : y ∈ net.exposed) :
    (parent.mkSt k (net.extract total)).sem (k, x.1) (k, y.1) = total.sem x.2 y.2 := by
  rw [NetD.mkSt_sem, NetD.extract_sem net total hn x y hx hy]

@[simp] theorem NetD.extract_pins (net : NetD F) (total : St F) : (net.extract total).pins = net.exposed.map (·.1) := rfl

theorem NetD.solveLevel_eq_solveWith (sched) (net : NetD F) : net.solveLevel sched = net.solveWith sched := rfl

namespace HNet

theorem solveH_leaf (sched : List (St F) → Option (Nat × Nat)) (c : CompD F) : solveH sched (.leaf c) = .ok c := by
  rw [solveH]

theorem solveH_leaf_eq {s s' : List (St F) → Option (Nat × Nat)} {c0 c c' : CompD F} (hs : solveH s (.leaf c0) = .ok c)
    (hs' : solveH s' (.leaf c0) = .ok c') : c' = c := by
  rw [solveH_leaf] at hs hs'
  cases hs; cases hs'; rfl

theorem solveAll_ok_iff (sched : List (St F) → Option (Nat × Nat)) :
    ∀ (cs : List (HNet F)) (comps : List (CompD F)),
      solveAll sched cs = .ok comps ↔ List.Forall₂ (fun h c => solveH sched h = .ok c) cs comps := by
  intro cs
  induction cs with
  | nil =>
    intro comps
    rw [solveAll]
    constructor
    · intro h; cases h; exact List.Forall₂.nil
    · intro h; cases h; rfl
  | cons h t ih =>
    intro comps
    rw [solveAll]
    constructor
    · intro hs
      split at hs
      · cases hs
      · rename_i c hc
        split at hs
        · cases hs
        · rename_i cs' ht
          cases hs
          exact List.Forall₂.cons hc ((ih cs').1 ht)
    · intro hf
      cases hf with
      | cons hc ht =>
        rw [hc]
        simp only
        rw [(ih _).2 ht]

/-- the level a node solves, once its children are solved -/
def levelNet (comps : List (CompD F)) (links : List (PinRef × PinRef)) (exposed : List (String × PinRef)) : NetD F :=
  { comps := comps, links := links, exposed := exposed }

theorem solveH_node_inv (sched : List (St F) → Option (Nat × Nat)) (cs : List (HNet F))
    (links : List (PinRef × PinRef)) (exposed : List (String × PinRef)) (c : CompD F)
    (h : solveH sched (.node cs links exposed) = .ok c) :
    ∃ comps total, List.Forall₂ (fun h c => solveH sched h = .ok c) cs comps ∧
      (levelNet comps links exposed).solveWith sched = .ok total ∧
      c = (levelNet comps links exposed).extract total := by
  rw [solveH] at h
  split at h
  · cases h
  · rename_i comps hc
    simp only at h
    split at h
    · cases h
    · rename_i total ht
      cases h
      exact ⟨comps, total, (solveAll_ok_iff sched cs comps).1 hc, ht, rfl⟩

theorem solveH_node_of (sched : List (St F) → Option (Nat × Nat)) (cs : List (HNet F))
    (links : List (PinRef × PinRef)) (exposed : List (String × PinRef)) (comps : List (CompD F)) (total : St F)
    (hc : List.Forall₂ (fun h c => solveH sched h = .ok c) cs comps)
    (ht : (levelNet comps links exposed).solveWith sched = .ok total) :
    solveH sched (.node cs links exposed) = .ok ((levelNet comps links exposed).extract total) := by
  rw [solveH, (solveAll_ok_iff sched cs comps).2 hc]
  simp only
  have : NetD.solveLevel sched { comps := comps, links := links, exposed := exposed } = .ok total := ht
  rw [this]
  rfl

end HNet

/-- `c` carries, between its pin *names*, the solution operator of the network `net` whose exposure names those pins -/
def NetD.SolvedByNames (net : NetD F) (c : CompD F) : Prop :=
  (∀ a b, net.Sol a b → ∀ e ∈ net.exposed, b e.2 = (net.exposed.map fun y => c.sem e.1 y.1 * a y.2).sum) ∧
  (∀ v : PinRef → F, ∃ a b, net.Sol a b ∧ ∀ e ∈ net.exposed, a e.2 = v e.2)

theorem NetD.solvedByNames_extract (net : NetD F) (total : St F) (hn : (net.exposed.map (·.1)).Nodup)
    (h : net.SolvedBy total.sem) : net.SolvedByNames (net.extract total) := by
  refine ⟨?_, h.2⟩
  intro a b hs e he
  rw [h.1 a b hs e he]
  congr 1
  apply List.map_congr_left
  intro y hy
  rw [NetD.extract_sem net total hn e y he hy]

/-- the component a node hands up carries, between its exposed names, the solution operator of the level's network, in which
every child is one component carrying the child's own result -/
theorem HNet.solveH_node_solves (sched : List (St F) → Option (Nat × Nat)) (cs : List (HNet F))
    (links : List (PinRef × PinRef)) (exposed : List (String × PinRef)) (c : CompD F)
    (h : HNet.solveH sched (.node cs links exposed) = .ok c) :
    ∃ comps, List.Forall₂ (fun h c => HNet.solveH sched h = .ok c) cs comps ∧
      c.pins = exposed.map (·.1) ∧
      ((HNet.levelNet comps links exposed).WF → (HNet.levelNet comps links exposed).ExposureOK →
        (exposed.map (·.1)).Nodup → (HNet.levelNet comps links exposed).SolvedByNames c) := by
  obtain ⟨comps, total, hc, ht, rfl⟩ := HNet.solveH_node_inv sched cs links exposed c h
  refine ⟨comps, hc, rfl, ?_⟩
  intro wf ex hn
  exact NetD.solvedByNames_extract _ total hn (solveWith_solves _ wf ex sched total ht)

namespace HNet

/-- every level of the hierarchy is a well-formed network description once its children are solved -/
inductive LevelsOK (sched : List (St F) → Option (Nat × Nat)) : HNet F → Prop
  | leaf (c : CompD F) : LevelsOK sched (.leaf c)
  | node (cs : List (HNet F)) (links : List (PinRef × PinRef)) (exposed : List (String × PinRef)) :
      (∀ h ∈ cs, LevelsOK sched h) →
      (∀ comps, List.Forall₂ (fun h c => solveH sched h = .ok c) cs comps →
        (levelNet comps links exposed).WF ∧ (levelNet comps links exposed).ExposureOK ∧ (exposed.map (·.1)).Nodup) →
      LevelsOK sched (.node cs links exposed)

/-- the pin names a sub-circuit presents to its parent -/
def pinNames : HNet F → List String
  | .leaf c => c.pins
  | .node _ _ exposed => exposed.map (·.1)

theorem solveH_pins (sched : List (St F) → Option (Nat × Nat)) (h : HNet F) (c : CompD F)
    (hs : solveH sched h = .ok c) : c.pins = h.pinNames := by
  cases h with
  | leaf c0 => rw [solveH_leaf] at hs; cases hs; rfl
  | node cs links exposed =>
    obtain ⟨comps, total, _, _, rfl⟩ := solveH_node_inv sched cs links exposed c hs
    rfl

theorem solveAll_pins (sched : List (St F) → Option (Nat × Nat)) (cs : List (HNet F)) (comps : List (CompD F))
    (hF : List.Forall₂ (fun h c => solveH sched h = .ok c) cs comps) : comps.map CompD.pins = cs.map pinNames := by
  induction hF with
  | nil => rfl
  | cons hab _ ih => simp only [List.map_cons, ih, solveH_pins sched _ _ hab]

/-- one level, described by the pin names of its children only: names and pins are distinct, every end of a link and
every exposed pin is a pin of a child, a pin is in at most one link, no child is linked to itself, exposed pins are free -/
structure LevelOK (pinss : List (List String)) (links : List (PinRef × PinRef)) (exposed : List (String × PinRef)) :
    Prop where
  pinsNodup : ∀ ps ∈ pinss, ps.Nodup
  endsNodup : (links.flatMap fun l => [l.1, l.2]).Nodup
  endsPins : ∀ l ∈ links, ∀ p, (p = l.1 ∨ p = l.2) → ∃ ps, pinss[p.1]? = some ps ∧ p.2 ∈ ps
  noSelf : ∀ l ∈ links, l.1.1 ≠ l.2.1
  expNodup : (exposed.map (·.2)).Nodup
  expPins : ∀ e ∈ exposed, ∃ ps, pinss[e.2.1]? = some ps ∧ e.2.2 ∈ ps
  expFree : ∀ e ∈ exposed, ∀ l ∈ links, e.2 ≠ l.1 ∧ e.2 ≠ l.2
  namesNodup : (exposed.map (·.1)).Nodup

omit [Field F] [DecidableEq F] in
theorem levelOK_iff_wf {comps : List (CompD F)} {links : List (PinRef × PinRef)} {exposed : List (String × PinRef)} :
    LevelOK (comps.map CompD.pins) links exposed ↔
      (levelNet comps links exposed).WF ∧ (levelNet comps links exposed).ExposureOK ∧ (exposed.map (·.1)).Nodup := by
  have hpin : ∀ p : PinRef, (∃ ps, (comps.map CompD.pins)[p.1]? = some ps ∧ p.2 ∈ ps) ↔
      ∃ c : CompD F, comps[p.1]? = some c ∧ p.2 ∈ c.pins := fun p => List.exists_getElem?_map _ _ _ _
  constructor
  · intro h
    refine ⟨⟨fun c hc => h.pinsNodup c.pins (List.mem_map.2 ⟨c, hc, rfl⟩), h.endsNodup,
      fun l hl p hp => (hpin p).1 (h.endsPins l hl p hp), h.noSelf⟩, ⟨h.expNodup, fun e he => ⟨?_, ?_⟩⟩, h.namesNodup⟩
    · exact (NetD.mem_initial_pins (levelNet comps links exposed) e.2).2 ((hpin e.2).1 (h.expPins e he))
    · exact (NetD.not_lnk_iff (levelNet comps links exposed) e.2).2 (h.expFree e he)
  · rintro ⟨wf, ex, hn⟩
    refine ⟨List.forall_mem_map.2 wf.pinsNodup, wf.endsNodup, fun l hl p hp => (hpin p).2 (wf.endsPins l hl p hp),
      wf.noSelf, ex.nodup, fun e he => (hpin e.2).2 ?_, fun e he => ?_, hn⟩
    · exact (NetD.mem_initial_pins (levelNet comps links exposed) e.2).1 (ex.free e he).1
    · exact (NetD.not_lnk_iff (levelNet comps links exposed) e.2).1 (ex.free e he).2

/-- a hierarchy every level of which is well formed, stated on the description alone -/
inductive WFTree : HNet F → Prop
  | leaf (c : CompD F) : WFTree (.leaf c)
  | node (cs : List (HNet F)) (links : List (PinRef × PinRef)) (exposed : List (String × PinRef)) :
      (∀ h ∈ cs, WFTree h) → LevelOK (cs.map pinNames) links exposed → WFTree (.node cs links exposed)

omit [Field F] [DecidableEq F] in
theorem WFTree.child {cs : List (HNet F)} {links : List (PinRef × PinRef)} {exposed : List (String × PinRef)}
    (w : WFTree (.node cs links exposed)) : ∀ h ∈ cs, WFTree h := by
  cases w with
  | node _ _ _ hch _ => exact hch

omit [Field F] [DecidableEq F] in
theorem WFTree.level {cs : List (HNet F)} {links : List (PinRef × PinRef)} {exposed : List (String × PinRef)}
    (w : WFTree (.node cs links exposed)) : LevelOK (cs.map pinNames) links exposed := by
  cases w with
  | node _ _ _ _ hlev => exact hlev

theorem WFTree.level_wf {sched : List (St F) → Option (Nat × Nat)} {cs : List (HNet F)} {links : List (PinRef × PinRef)}
    {exposed : List (String × PinRef)} (w : WFTree (.node cs links exposed)) {comps : List (CompD F)}
    (hF : List.Forall₂ (fun h c => solveH sched h = .ok c) cs comps) :
    (levelNet comps links exposed).WF ∧ (levelNet comps links exposed).ExposureOK ∧ (exposed.map (·.1)).Nodup := by
  have hlev := w.level
  rw [← solveAll_pins sched cs comps hF] at hlev
  exact levelOK_iff_wf.1 hlev

theorem WFTree.solveH_node {sched : List (St F) → Option (Nat × Nat)} {cs : List (HNet F)} {links : List (PinRef × PinRef)}
    {exposed : List (String × PinRef)} (w : WFTree (.node cs links exposed)) {c : CompD F}
    (hs : solveH sched (.node cs links exposed) = .ok c) :
    ∃ comps total, List.Forall₂ (fun h c => solveH sched h = .ok c) cs comps ∧
      c = (levelNet comps links exposed).extract total ∧ (levelNet comps links exposed).WF ∧
      (levelNet comps links exposed).ExposureOK ∧ (levelNet comps links exposed).SolvedBy total.sem := by
  obtain ⟨comps, total, hF, ht, rfl⟩ := solveH_node_inv sched cs links exposed c hs
  obtain ⟨wf, ex, -⟩ := w.level_wf hF
  exact ⟨comps, total, hF, rfl, wf, ex, solveWith_solves _ wf ex sched total ht⟩

theorem WFTree.levelsOK (sched : List (St F) → Option (Nat × Nat)) {h : HNet F} (w : WFTree h) : LevelsOK sched h := by
  induction w with
  | leaf c => exact LevelsOK.leaf c
  | node cs links exposed hch hlev ih =>
    exact LevelsOK.node cs links exposed ih fun comps hF => (WFTree.node cs links exposed hch hlev).level_wf hF

/-- a hierarchy that solves has solved children, so `LevelsOK` says as much of it as `WFTree` -/
theorem LevelsOK.wfTree {sched : List (St F) → Option (Nat × Nat)} {h : HNet F} (ok : LevelsOK sched h) :
    ∀ c, solveH sched h = .ok c → WFTree h := by
  induction ok with
  | leaf c0 => exact fun _ _ => .leaf c0
  | node cs links exposed _ hlev ih =>
    intro c hs
    obtain ⟨comps, total, hF, -, -⟩ := solveH_node_inv sched cs links exposed c hs
    refine .node cs links exposed (fun h hh => ?_) ?_
    · obtain ⟨i, hi⟩ := List.getElem?_of_mem hh
      obtain ⟨c', -, hc'⟩ := hF.of_getElem?_left hi
      exact ih h hh c' hc'
    · rw [← solveAll_pins sched cs comps hF]
      exact levelOK_iff_wf.2 (hlev comps hF)

end HNet
end levels

namespace HNet
variable {F : Type}

section wired
variable {K K' : Type}

/-- links and exposures over pins `K × String`, of which `ok` exist: a pin is in at most one link, link ends and exposed pins
exist, no link joins two pins at the same address, exposed pins are distinct and free, exposed names are distinct -/
structure Wired (ok : K × String → Prop) (links : List ((K × String) × (K × String)))
    (exposed : List (String × (K × String))) : Prop where
  endsNodup : (links.flatMap fun l => [l.1, l.2]).Nodup
  endsOk : ∀ l ∈ links, ok l.1 ∧ ok l.2
  noSelf : ∀ l ∈ links, l.1.1 ≠ l.2.1
  expNodup : (exposed.map (·.2)).Nodup
  expOk : ∀ e ∈ exposed, ok e.2
  expFree : ∀ e ∈ exposed, ∀ l ∈ links, e.2 ≠ l.1 ∧ e.2 ≠ l.2
  namesNodup : (exposed.map (·.1)).Nodup

variable {ok : K × String → Prop} {links : List ((K × String) × (K × String))} {exposed : List (String × (K × String))}

theorem Wired.end_ok (W : Wired ok links exposed) {a : K × String} (ha : a ∈ links.flatMap fun l => [l.1, l.2]) : ok a := by
  obtain ⟨l, hl, rfl | rfl⟩ := List.mem_ends.1 ha
  · exact (W.endsOk l hl).1
  · exact (W.endsOk l hl).2

theorem Wired.sub (W : Wired ok links exposed) {ok' : K × String → Prop} {links' : List ((K × String) × (K × String))}
    {exposed' : List (String × (K × String))} (hL : links'.Sublist links) (hE : exposed'.Sublist exposed)
    (hl : ∀ l ∈ links', ok' l.1 ∧ ok' l.2) (he : ∀ e ∈ exposed', ok' e.2) :
    Wired (fun r => ok r ∧ ok' r) links' exposed' :=
  ⟨W.endsNodup.sublist (hL.flatMap _), fun l h => ⟨⟨(W.endsOk l (hL.subset h)).1, (hl l h).1⟩, (W.endsOk l (hL.subset h)).2, (hl l h).2⟩,
    fun l h => W.noSelf l (hL.subset h), W.expNodup.sublist (hE.map _), fun e h => ⟨W.expOk e (hE.subset h), he e h⟩,
    fun e h l h' => W.expFree e (hE.subset h) l (hL.subset h'), W.namesNodup.sublist (hE.map _)⟩

/-- a wiring carried along a renaming that is injective on the pins that exist; `hkey` is there for `noSelf` only -/
theorem Wired.map (W : Wired ok links exposed) {ok' : K' × String → Prop} (ρ : K × String → K' × String)
    (hinj : ∀ r r', ok r → ok r' → ρ r = ρ r' → r = r') (hkey : ∀ r r', ok r → ok r' → (ρ r).1 = (ρ r').1 → r.1 = r'.1)
    (hok : ∀ r, ok r → ok' (ρ r)) :
    Wired ok' (links.map fun l => (ρ l.1, ρ l.2)) (exposed.map fun e => (e.1, ρ e.2)) := by
  refine ⟨?_, ?_, ?_, ?_, ?_, ?_, ?_⟩
  · rw [List.ends_map]
    exact W.endsNodup.map_on fun x hx y hy => hinj x y (W.end_ok hx) (W.end_ok hy)
  · exact List.forall_mem_map.2 fun l hl => ⟨hok _ (W.endsOk l hl).1, hok _ (W.endsOk l hl).2⟩
  · exact List.forall_mem_map.2 fun l hl e => W.noSelf l hl (hkey _ _ (W.endsOk l hl).1 (W.endsOk l hl).2 e)
  · have hexp : ∀ x ∈ exposed.map (·.2), ok x := List.forall_mem_map.2 W.expOk
    have h := W.expNodup.map_on (f := ρ) fun x hx y hy => hinj x y (hexp x hx) (hexp y hy)
    rw [List.map_map] at h ⊢
    exact h
  · exact List.forall_mem_map.2 fun e he => hok _ (W.expOk e he)
  · refine List.forall_mem_map.2 fun e he => List.forall_mem_map.2 fun l hl => ?_
    exact ⟨fun h => (W.expFree e he l hl).1 (hinj _ _ (W.expOk e he) (W.endsOk l hl).1 h),
      fun h => (W.expFree e he l hl).2 (hinj _ _ (W.expOk e he) (W.endsOk l hl).2 h)⟩
  · rw [List.map_map]
    exact W.namesNodup

end wired

/-- `r` names a pin of the child of the level it points at -/
def IsPin (cs : List (HNet F)) (r : PinRef) : Prop := ∃ h, cs[r.1]? = some h ∧ r.2 ∈ pinNames h

theorem IsPin.lt {cs : List (HNet F)} {r : PinRef} (h : IsPin cs r) : r.1 < cs.length := by
  obtain ⟨_, hk, -⟩ := h
  exact (List.getElem?_eq_some_iff.1 hk).1

theorem levelOK_iff_wired {cs : List (HNet F)} {links : List (PinRef × PinRef)} {exposed : List (String × PinRef)} :
    LevelOK (cs.map pinNames) links exposed ↔ (∀ h ∈ cs, (pinNames h).Nodup) ∧ Wired (IsPin cs) links exposed := by
  have hpin : ∀ p : PinRef, (∃ ps, (cs.map pinNames)[p.1]? = some ps ∧ p.2 ∈ ps) ↔ IsPin cs p :=
    fun p => List.exists_getElem?_map _ _ _ _
  constructor
  · intro lev
    exact ⟨List.forall_mem_map.1 lev.pinsNodup, lev.endsNodup,
      fun l hl => ⟨(hpin _).1 (lev.endsPins l hl _ (Or.inl rfl)), (hpin _).1 (lev.endsPins l hl _ (Or.inr rfl))⟩, lev.noSelf,
      lev.expNodup, fun e he => (hpin _).1 (lev.expPins e he), lev.expFree, lev.namesNodup⟩
  · rintro ⟨hnd, W⟩
    refine ⟨List.forall_mem_map.2 hnd, W.endsNodup, fun l hl p hp => (hpin p).2 ?_, W.noSelf, W.expNodup,
      fun e he => (hpin _).2 (W.expOk e he), W.expFree, W.namesNodup⟩
    rcases hp with rfl | rfl
    · exact (W.endsOk l hl).1
    · exact (W.endsOk l hl).2

theorem LevelOK.wired {cs : List (HNet F)} {links : List (PinRef × PinRef)} {exposed : List (String × PinRef)}
    (lev : LevelOK (cs.map pinNames) links exposed) : Wired (IsPin cs) links exposed :=
  (levelOK_iff_wired.1 lev).2

theorem WFTree.wired {cs : List (HNet F)} {links : List (PinRef × PinRef)} {exposed : List (String × PinRef)}
    (w : WFTree (.node cs links exposed)) : Wired (IsPin cs) links exposed :=
  w.level.wired

end HNet
