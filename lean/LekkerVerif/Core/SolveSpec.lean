import LekkerVerif.Core.Solve
import LekkerVerif.Core.RefineLists

/-! What the executable `linkPins`, `split`, `add?`, `join`, `stepWith` and `loopWith` return, read off their definitions
once, for every `Scalar` (so also for a field, through `fieldScalar`).  Matrix values enter only through whether the two
executable inverses of `add?` exist. -/

variable {F : Type}

namespace St

theorem mem_getOutTo {a b : St F} {p : PinRef} :
    p ∈ a.getOutTo b ↔ ∃ q, (p, q) ∈ a.conn ∧ q.1 ∈ b.group := by
  unfold getOutTo
  rw [List.mem_filterMap]
  constructor
  · rintro ⟨⟨p', q⟩, hm, hif⟩
    split at hif
    · rename_i hc
      cases hif
      exact ⟨q, hm, List.contains_iff_mem.1 hc⟩
    · cases hif
  · rintro ⟨q, hm, hc⟩
    exact ⟨(p, q), hm, if_pos (List.contains_iff_mem.2 hc)⟩

theorem linkPins_ok_iff {a b : St F} {links : List (PinRef × PinRef)} :
    linkPins a b = .ok links ↔
      (a.getOutTo b).length = (b.getInFrom a).length ∧
      List.Forall₂ (fun p l => l.1 = p ∧ lookupL a.conn p = some l.2 ∧ lookupL b.conn l.2 = some p)
        (a.getOutTo b) links := by
  unfold linkPins
  dsimp only
  by_cases hlen : (a.getOutTo b).length = (b.getInFrom a).length
  · rw [if_neg (by simpa using hlen), List.mapM_except_ok_iff]
    refine (and_iff_right hlen).symm.trans (and_congr_right fun _ => ?_)
    refine ⟨fun h => h.imp fun p l hl => ?_, fun h => h.imp fun p l hl => ?_⟩
    · split at hl
      · cases hl
      · rename_i q hq
        split at hl
        · cases hl
        · rename_i p' hp'
          split at hl
          · cases hl
          · rename_i hne
            cases hl
            have : p' = p := by simpa using hne
            exact ⟨rfl, hq, this ▸ hp'⟩
    · obtain ⟨rfl, h1, h2⟩ := hl
      simp [h1, h2]
  · rw [if_pos (by simpa using hlen)]
    exact ⟨(nomatch ·), fun h => (hlen h.1).elim⟩

theorem linkPins_spec {a b : St F} {links : List (PinRef × PinRef)} (h : linkPins a b = .ok links) :
    links.map (·.1) = a.getOutTo b ∧
      ∀ l ∈ links, lookupL a.conn l.1 = some l.2 ∧ lookupL b.conn l.2 = some l.1 := by
  have hf := (linkPins_ok_iff.1 h).2
  generalize a.getOutTo b = out at hf
  clear h
  induction hf with
  | nil => exact ⟨rfl, fun _ h => nomatch h⟩
  | cons hxy _ ih =>
    obtain ⟨rfl, h12⟩ := hxy
    exact ⟨by rw [List.map_cons, ih.1], List.forall_mem_cons.2 ⟨h12, ih.2⟩⟩

theorem linkPins_mem {a b : St F} {links : List (PinRef × PinRef)} (h : linkPins a b = .ok links) :
    ∀ l ∈ links, l ∈ a.conn ∧ (l.2, l.1) ∈ b.conn := fun l hl =>
  ⟨lookupL_mem _ _ _ ((linkPins_spec h).2 l hl).1, lookupL_mem _ _ _ ((linkPins_spec h).2 l hl).2⟩

variable [Scalar F]

theorem split_ok_iff {s : St F} {i o : List PinRef} {A : SMat F} :
    s.split i o = .ok A ↔ (s.hasIdx i && s.hasIdx o) = true ∧
      A = { N := i.length, M := o.length, S21 := s.gather i i, S22 := s.gather i o,
            S11 := s.gather o i, S12 := s.gather o o } := by
  unfold split
  split
  · rename_i h
    exact ⟨fun e => ⟨h, by cases e; rfl⟩, fun e => e.2 ▸ rfl⟩
  · rename_i h
    exact ⟨(nomatch ·), fun e => (h e.1).elim⟩

theorem join_ok_iff {a b c : St F} {n : Nat} :
    join a b n = .ok c ↔
      ∃ links, linkPins a b = .ok links ∧
        ∃ selfIn, removeAll a.pins (links.map (·.1)) = .ok selfIn ∧
        ∃ stOut, removeAll b.pins (links.map (·.2)) = .ok stOut ∧
        ∃ A, a.split selfIn (links.map (·.1)) = .ok A ∧
        ∃ B, b.split (links.map (·.2)) stOut = .ok B ∧
        ∃ C, A.add? B = .ok C ∧
        ∃ addPins, removeAll (a.pins ++ b.pins) (links.map (·.1) ++ links.map (·.2)) = .ok addPins ∧
        c = build a b n C addPins := by
  unfold join
  -- each result stays under the step that returns it: flattening the quantifiers (`exists_and_left`) is slow here
  simp only [Except.bind_eq_ok, pure, Except.pure, Except.ok.injEq, @eq_comm _ _ c]

end St

theorem SMat.add?_cases [Scalar F] (A B : SMat F) :
    (A.M ≠ B.N ∧ A.add? B = .error .dimension) ∨
    (A.M = B.N ∧ ¬((Mat.inv? (Mat.sub (Mat.one A.M) (Mat.mul A.S12 B.S21))).isSome = true ∧
        (Mat.inv? (Mat.sub (Mat.one A.M) (Mat.mul B.S21 A.S12))).isSome = true) ∧ A.add? B = .error .singular) ∨
    (A.M = B.N ∧ ((Mat.inv? (Mat.sub (Mat.one A.M) (Mat.mul A.S12 B.S21))).isSome = true ∧
        (Mat.inv? (Mat.sub (Mat.one A.M) (Mat.mul B.S21 A.S12))).isSome = true) ∧ ∃ C, A.add? B = .ok C) := by
  unfold SMat.add?
  by_cases hd : A.M = B.N
  · rw [if_neg (by simpa using hd)]
    split
    · rename_i hX hY
      exact .inr (.inr ⟨hd, ⟨by rw [hX]; rfl, by rw [hY]; rfl⟩, _, rfl⟩)
    · rename_i hno
      refine .inr (.inl ⟨hd, fun hs => ?_, rfl⟩)
      obtain ⟨X, hX⟩ := Option.isSome_iff_exists.1 hs.1
      obtain ⟨Y, hY⟩ := Option.isSome_iff_exists.1 hs.2
      exact hno X Y hX hY
  · exact .inl ⟨hd, if_pos (by simpa using hd)⟩

theorem SMat.add?_eq_of_dim [Scalar F] {A B : SMat F} (hd : A.M = B.N) :
    (∃ C, A.add? B = .ok C) ∨ A.add? B = .error .singular := by
  rcases SMat.add?_cases A B with ⟨hn, _⟩ | ⟨_, _, e⟩ | ⟨_, _, e⟩
  · exact (hn hd).elim
  · exact .inr e
  · exact .inl e

namespace Solve

theorem mem_step {live : List (St F)} {src tar new s : St F} :
    s ∈ live.filter (fun r => r.id != src.id && r.id != tar.id) ++ [new] ↔
      (s ∈ live ∧ s.id ≠ src.id ∧ s.id ≠ tar.id) ∨ s = new := by
  simp

theorem length_step_le {live : List (St F)} {src tar new : St F} (hs : src ∈ live) (ht : tar ∈ live) (hne : src.id ≠ tar.id) :
    (live.filter (fun r => r.id != src.id && r.id != tar.id) ++ [new]).length + 1 ≤ live.length := by
  have hcount := List.length_eq_length_filter_add (l := live) fun r => r.id != src.id && r.id != tar.id
  have h2 : [src, tar].Subperm (live.filter fun r => !(r.id != src.id && r.id != tar.id)) := by
    refine List.subperm_of_subset (by simpa using fun e : src = tar => hne (e ▸ rfl)) fun x hx => ?_
    rcases List.mem_pair.1 hx with rfl | rfl
    · exact List.mem_filter.2 ⟨hs, by simp⟩
    · exact List.mem_filter.2 ⟨ht, by simp⟩
  rw [List.length_append, hcount]
  exact Nat.add_le_add_left h2.length_le _

theorem find?_id {live : List (St F)} {i : Nat} {s : St F} (h : live.find? (·.id == i) = some s) : s ∈ live ∧ s.id = i :=
  ⟨List.mem_of_find?_eq_some h, beq_iff_eq.1 (List.find?_some h :)⟩

variable [Scalar F] {sched : List (St F) → Option (Nat × Nat)} {live live' : List (St F)} {fresh : Nat}

theorem stepWith_eq_of {i j : Nat} {src tar : St F} (hs : sched live = some (i, j))
    (hi : live.find? (·.id == i) = some src) (hj : live.find? (·.id == j) = some tar) (hij : i ≠ j) :
    stepWith sched live fresh =
      (St.join src tar fresh).map fun new => live.filter (fun r => r.id != i && r.id != j) ++ [new] := by
  unfold stepWith
  rw [hs]
  dsimp only
  rw [hi, hj]
  dsimp only
  rw [if_neg (by simpa using hij)]
  cases St.join src tar fresh <;> rfl

theorem stepWith_ok_iff :
    stepWith sched live fresh = .ok live' ↔
      ∃ i j src tar new, sched live = some (i, j) ∧ live.find? (·.id == i) = some src ∧
        live.find? (·.id == j) = some tar ∧ i ≠ j ∧ St.join src tar fresh = .ok new ∧
        live' = live.filter (fun r => r.id != i && r.id != j) ++ [new] := by
  constructor
  · intro h
    unfold stepWith at h
    split at h
    · cases h
    · rename_i i j hs
      split at h
      · rename_i src tar hi hj
        split at h
        · cases h
        · rename_i hij
          split at h
          · cases h
          · rename_i new hjn
            cases h
            exact ⟨i, j, src, tar, new, hs, hi, hj, by simpa using hij, hjn, rfl⟩
      · cases h
  · rintro ⟨i, j, src, tar, new, hs, hi, hj, hij, hjn, rfl⟩
    rw [stepWith_eq_of hs hi hj hij, hjn]
    rfl

theorem stepWith_cases (sched) (live live' : List (St F)) (fresh : Nat) (h : stepWith sched live fresh = .ok live') :
    ∃ src tar new, src ∈ live ∧ tar ∈ live ∧ src.id ≠ tar.id ∧ St.join src tar fresh = .ok new ∧
      live' = live.filter (fun r => r.id != src.id && r.id != tar.id) ++ [new] := by
  obtain ⟨i, j, src, tar, new, -, hi, hj, hij, hjn, rfl⟩ := stepWith_ok_iff.1 h
  obtain ⟨hsm, rfl⟩ := find?_id hi
  obtain ⟨htm, rfl⟩ := find?_id hj
  exact ⟨src, tar, new, hsm, htm, hij, hjn, rfl⟩

theorem loopWith_induct (sched) (Q : List (St F) → Nat → Prop)
    (hstep : ∀ live live' fresh, Q live fresh → stepWith sched live fresh = .ok live' → Q live' (fresh + 1))
    (fuel : Nat) (live : List (St F)) (fresh : Nat) (total : St F) (q : Q live fresh)
    (h : loopWith sched fuel live fresh = .ok total) : ∃ fr, Q [total] fr := by
  fun_induction loopWith sched fuel live fresh with
  | case1 | case3 => cases h; exact ⟨_, q⟩
  | case2 => cases h
  | case4 _ _ _ _ hst => rw [hst] at h; cases h
  | case5 _ _ _ live' hst _ ih => rw [hst] at h; exact ih (hstep _ _ _ q hst) h

end Solve
