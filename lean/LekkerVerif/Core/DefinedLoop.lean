import LekkerVerif.Core.Complete
import LekkerVerif.Core.ShapeIndep
import LekkerVerif.Core.Defined
import LekkerVerif.Core.Sched

/-! On a consistent state a merge can only fail with a singular inner system.  `St.join` has six shape steps that can
fail (`linkPins`: `connectivity`, `keyError`, `notSymmetric`; three `removeAll`s: `listRemove`; two `split`s: `keyError`)
and one numerical step (`SMat.add?`: `dimension`, `singular`).  On a state that satisfies the bookkeeping invariant `Book`,
where moreover every pin has a matrix index (`Idx`) and every entry of a connection table is a link of the network
(`ConnL`), all shape steps succeed and the dimensions of the star product match, so the only possible failure is
`.singular`, exactly when the inner system `1 - A.S12 * B.S21` of the two partitioned matrices is not invertible
(`St.join_defined`).  Under a valid schedule (`ValidSched`; the pin-count heuristic is one) the loop only ever joins two
structures of such a state (`NetD.solveWith_valid`). -/

theorem removeAll_ok {xs l : List PinRef} (hnd : xs.Nodup) (hsub : ∀ x ∈ xs, x ∈ l) :
    ∃ r, removeAll l xs = .ok r ∧ ∀ y ∈ r, y ∈ l :=
  ⟨_, removeAll_ok_iff.2 ⟨List.subperm_of_subset hnd hsub, rfl⟩, fun _ hy => List.diff_subset _ _ hy⟩

namespace Solve
variable {F : Type}

/-- every pin has a matrix index (`split_in_out` raises `KeyError` otherwise) -/
def Idx (s : St F) : Prop := ∀ p ∈ s.pins, (lookupL s.idx p).isSome

def ConnL (L : PinRef → PinRef → Prop) (s : St F) : Prop := ∀ l ∈ s.conn, L l.1 l.2

theorem disj_of_members (L : PinRef → PinRef → Prop) (B : Nat) (s t : St F) (bs : Book L B s) (bt : Book L B t)
    (hm : ∀ k, k ∈ St.membersOf s → k ∈ St.membersOf t → False) : Disj s t :=
  fun p hp hq => hm p.1 (bs.own p hp) (bt.own p hq)

theorem filterMap_ite_eq {α β : Type} (c : α → Bool) (g : α → β) (l : List α) :
    l.filterMap (fun x => if c x then some (g x) else none) = (l.filter c).map g := by
  rw [← List.filterMap_filter, List.filterMap_eq_map']

/-- the two views of the links from `s` into `t` are the two projections of the same part of `s`'s table -/
theorem getOutTo_eq_map_filter (s t : St F) :
    s.getOutTo t = (s.conn.filter fun lt => t.group.contains lt.2.1).map (·.1) :=
  filterMap_ite_eq (fun lt : PinRef × PinRef => t.group.contains lt.2.1) (·.1) s.conn

theorem getInFrom_eq_map_filter (s t : St F) :
    t.getInFrom s = (s.conn.filter fun lt => t.group.contains lt.2.1).map (·.2) :=
  filterMap_ite_eq (fun lt : PinRef × PinRef => t.group.contains lt.2.1) (·.2) s.conn

variable [Field F] [DecidableEq F]

theorem join_idx (s t c : St F) (n : Nat) (h : St.join s t n = .ok c) : Idx c := by
  obtain ⟨C, addPins, rfl⟩ := join_eq_build h
  intro p hp
  refine (lookupL_isSome_iff addPins.zipIdx p).2 ?_
  rwa [List.zipIdx_map_fst]

end Solve

namespace St
variable {F : Type} [Field F] [DecidableEq F]
open Solve

/-- on a consistent state a merge either succeeds or fails with `.singular`; moreover (with the two
partitioned matrices `A`, `B'` exposed) it succeeds exactly when the inner system is invertible. -/
theorem join_defined (L : PinRef → PinRef → Prop) (B : Nat) (hsym : ∀ p q, L p q → L q p)
    (s t : St F) (n : Nat) (bs : Book L B s) (bt : Book L B t) (cs : ConnL L s)
    (hm : ∀ k, k ∈ St.membersOf s → k ∈ St.membersOf t → False) (is : Idx s) (it : Idx t) :
    ∃ (links : List (PinRef × PinRef)) (selfIn stOut : List PinRef) (A B' : SMat F),
      St.linkPins s t = .ok links ∧
      removeAll s.pins (links.map (·.1)) = .ok selfIn ∧
      removeAll t.pins (links.map (·.2)) = .ok stOut ∧
      s.split selfIn (links.map (·.1)) = .ok A ∧
      t.split (links.map (·.2)) stOut = .ok B' ∧
      ((∃ c, St.join s t n = .ok c) ↔
        IsUnit (1 - (A.toSM A.N A.M).S12 * (B'.toSM A.M B'.M).S21)) ∧
      (St.join s t n = .error .singular ↔
        ¬ IsUnit (1 - (A.toSM A.N A.M).S12 * (B'.toSM A.M B'.M).S21)) ∧
      ∀ e, St.join s t n = .error e → e = .singular := by
  -- every pin of `s` connected into `t` finds its partner in both tables: the link goes from `t`'s group into `s`'s
  have hent : ∀ p ∈ s.getOutTo t, ∃ q, (p, q) ∈ s.conn ∧ (q, p) ∈ t.conn := fun p hp =>
    let ⟨q, hpq, hg⟩ := St.mem_getOutTo.1 hp
    ⟨q, hpq, bt.cross (fun k hk hk' => hm k hk' hk) (hsym p q (cs _ hpq))
      ((bt.mem_group (bs.connOut _ hpq).2).1 hg) (bs.own _ (bs.connIn _ hpq))⟩
  have hl : St.linkPins s t = .ok ((s.getOutTo t).map fun p => (p, (lookupL s.conn p).getD p)) := by
    refine St.linkPins_ok_iff.2 ⟨?_, List.forall₂_map_right_iff.2 (List.forall₂_same.2 fun p hp => ?_)⟩
    · rw [getOutTo_eq_map_filter, getInFrom_eq_map_filter, List.length_map, List.length_map]
    · obtain ⟨q, h1, h2⟩ := hent p hp
      rw [lookupL_of_mem s.conn bs.connKey p q h1]
      exact ⟨rfl, rfl, lookupL_of_mem t.conn bt.connKey q p h2⟩
  generalize (s.getOutTo t).map _ = links at hl
  -- the pins to remove are distinct pins of their structures, so the three `removeAll`s succeed
  have lmem := St.linkPins_mem hl
  have sub1 : ∀ x ∈ links.map (·.1), x ∈ s.pins := fun x hx =>
    let ⟨l, hl1, e⟩ := List.mem_map.1 hx
    e ▸ bs.connIn l (lmem l hl1).1
  have sub2 : ∀ x ∈ links.map (·.2), x ∈ t.pins := fun x hx =>
    let ⟨l, hl1, e⟩ := List.mem_map.1 hx
    e ▸ bt.connIn _ (lmem l hl1).2
  have nd1 : (links.map (·.1)).Nodup := by
    rw [(St.linkPins_spec hl).1, getOutTo_eq_map_filter]
    exact bs.connKey.sublist (List.filter_sublist.map _)
  -- a pin of `t` is the partner of one pin of `s` only: `t`'s table has one entry per key
  have nd2 : (links.map (·.2)).Nodup :=
    (List.Nodup.of_map _ nd1).map_on fun x hx y hy e =>
      Prod.ext (key_unique t.conn bt.connKey x.2 x.1 y.1 (lmem x hx).2 (e ▸ (lmem y hy).2)) e
  obtain ⟨selfIn, h2, hsI⟩ := removeAll_ok nd1 sub1
  obtain ⟨stOut, h3, hsO⟩ := removeAll_ok nd2 sub2
  obtain ⟨addPins, h7, _⟩ := removeAll_ok (l := s.pins ++ t.pins)
    (List.nodup_append.2 ⟨nd1, nd2, fun a ha b hb e =>
      disj_of_members L B s t bs bt hm a (sub1 a ha) (e ▸ sub2 b hb)⟩)
    fun x hx => (List.mem_append.1 hx).elim (fun h => List.mem_append_left _ (sub1 x h))
      fun h => List.mem_append_right _ (sub2 x h)
  -- every pin has an index, so the two `split`s succeed
  have hasS : ∀ {u : St F}, Idx u → ∀ l : List PinRef, (∀ x ∈ l, x ∈ u.pins) → u.hasIdx l = true :=
    fun iu l hl' => List.all_eq_true.2 fun x hx => iu x (hl' x hx)
  obtain ⟨A, h4, _, hAM⟩ := St.split_of_hasIdx (s := s) (i := selfIn) (o := links.map (·.1))
    (by rw [hasS is _ hsI, hasS is _ sub1]; rfl)
  obtain ⟨B', h5, hBN, _⟩ := St.split_of_hasIdx (s := t) (i := links.map (·.2)) (o := stOut)
    (by rw [hasS it _ sub2, hasS it _ hsO]; rfl)
  have wA := St.split_wf s _ _ A h4
  have wB := St.split_wf t _ _ B' h5
  have hM : A.M = B'.N := by rw [hAM, hBN, List.length_map, List.length_map]
  refine ⟨links, selfIn, stOut, A, B', hl, h2, h3, h4, h5, ?_⟩
  -- the dimensions agree, so `join` returns exactly when the star product does: when the inner system is invertible
  rw [St.join_eq_of (n := n) hl h2 h3 h4 h5 h7]
  by_cases hu : IsUnit (1 - (A.toSM A.N A.M).S12 * (B'.toSM A.M B'.M).S21)
  · obtain ⟨C, hC⟩ := (SMat.add?_ok_iff A B' wA wB).2 ⟨hM, hu⟩
    rw [hC]
    exact ⟨iff_of_true ⟨_, rfl⟩ hu, iff_of_false (nomatch ·) (not_not.2 hu), fun _ he => nomatch he⟩
  · rw [(SMat.add?_singular_iff A B' wA wB).2 ⟨hM, hu⟩]
    exact ⟨iff_of_false (fun ⟨_, hc⟩ => nomatch hc) hu, iff_of_true rfl hu, fun _ he => by cases he; rfl⟩

theorem join_error_singular (L : PinRef → PinRef → Prop) (B : Nat) (hsym : ∀ p q, L p q → L q p)
    (s t : St F) (n : Nat) (bs : Book L B s) (bt : Book L B t) (cs : ConnL L s)
    (hm : ∀ k, k ∈ St.membersOf s → k ∈ St.membersOf t → False) (is : Idx s) (it : Idx t) :
    (∃ c, St.join s t n = .ok c) ∨ St.join s t n = .error .singular := by
  obtain ⟨_, _, _, _, _, _, _, _, _, _, _, _, herr⟩ := join_defined L B hsym s t n bs bt cs hm is it
  cases hj : St.join s t n with
  | ok c => exact Or.inl ⟨c, rfl⟩
  | error e => rw [herr e hj]; exact Or.inr rfl

end St

namespace Solve
variable {F : Type}

theorem sortByPins_perm (l : List (St F)) : (sortByPins l).Perm l := by
  suffices H : ∀ acc : List (St F),
      (l.foldl (fun acc s =>
        let (a, b) := acc.span (fun t => t.pins.length ≤ s.pins.length); a ++ [s] ++ b) acc).Perm (acc ++ l) from H []
  induction l with
  | nil => exact fun acc => by rw [List.append_nil]; rfl
  | cons s l ih =>
    intro acc
    -- `s` goes between the two parts `span` cuts `acc` into
    have ins : ∀ p : St F → Bool, ((acc.span p).1 ++ [s] ++ (acc.span p).2).Perm (acc ++ [s]) := fun p => by
      rw [List.span_eq_takeWhile_dropWhile, List.append_assoc]
      refine (List.Perm.append_left _ List.perm_append_comm).trans ?_
      rw [← List.append_assoc, List.takeWhile_append_dropWhile]
    refine (ih _).trans (((ins _).append_right l).trans ?_)
    rw [List.append_assoc]
    rfl

theorem pySched_spec (live : List (St F)) (src : St F) (rest : List (St F))
    (h : sortByPins live = src :: rest) (hr : rest ≠ []) :
    ∃ tar, pySched live = some (src.id, tar.id) ∧ (tar ∈ rest ∨ (tar.id ≠ src.id ∧ tar ∈ src :: rest)) := by
  unfold pySched
  rw [h]
  dsimp only
  split
  · rename_i hnil
    exact absurd (List.append_eq_nil_iff.1 hnil).2 hr
  · rename_i tar tl hcons
    refine ⟨tar, rfl, ?_⟩
    have hmem : tar ∈ _ ++ rest := hcons ▸ List.mem_cons_self
    rcases List.mem_append.1 hmem with hm | hm
    · right
      have hm' := (sortByPins_perm _).mem_iff.1 hm
      obtain ⟨hm1, hm2⟩ := List.mem_filter.1 hm'
      refine ⟨by simpa using hm2, ?_⟩
      obtain ⟨b, _, hb⟩ := List.mem_filterMap.1 hm1
      unfold goneTo at hb
      exact List.mem_of_find?_eq_some hb
    · exact Or.inl hm

variable [Field F] [DecidableEq F]

/-- a schedule is *valid* when, on every live list with pairwise distinct ids and at least two structures, it
names two live structures with different ids -/
def ValidSched (sched : List (St F) → Option (Nat × Nat)) : Prop :=
  ∀ live : List (St F), (live.map (·.id)).Nodup → 2 ≤ live.length →
    ∃ i j, sched live = some (i, j) ∧ i ≠ j ∧ (∃ s ∈ live, s.id = i) ∧ (∃ t ∈ live, t.id = j)

theorem stepWith_valid {sched} (hv : ValidSched sched) {live : List (St F)} (hnd : (live.map (·.id)).Nodup)
    (h2 : 2 ≤ live.length) (fresh : Nat) :
    ∃ src ∈ live, ∃ tar ∈ live, src.id ≠ tar.id ∧ stepWith sched live fresh =
      (St.join src tar fresh).map fun new => live.filter (fun r => r.id != src.id && r.id != tar.id) ++ [new] := by
  have found {i} : (∃ s ∈ live, s.id = i) → ∃ src, live.find? (·.id == i) = some src := fun ⟨s, hsl, hsi⟩ =>
    Option.isSome_iff_exists.1 (List.find?_isSome.2 ⟨s, hsl, beq_iff_eq.2 hsi⟩)
  obtain ⟨i, j, hs, hij, hi, hj⟩ := hv live hnd h2
  obtain ⟨src, hsrc⟩ := found hi
  obtain ⟨tar, htar⟩ := found hj
  obtain ⟨hsm, rfl⟩ := find?_id hsrc
  obtain ⟨htm, rfl⟩ := find?_id htar
  exact ⟨src, hsm, tar, htm, hij, stepWith_eq_of hs hsrc htar hij⟩

/-- `E` collects the errors in which a `join` of two live structures of a state satisfying `I` can end -/
theorem loopWith_valid {sched} (hv : ValidSched sched) (I : List (St F) → Nat → Prop) (E : Err → Prop)
    (hnd : ∀ live fresh, I live fresh → (live.map (·.id)).Nodup)
    (hstep : ∀ live live' fresh, I live fresh → stepWith sched live fresh = .ok live' → I live' (fresh + 1))
    (hjoin : ∀ live fresh, I live fresh → ∀ src ∈ live, ∀ tar ∈ live, src.id ≠ tar.id →
      ∀ e, St.join src tar fresh = .error e → E e)
    (fuel : Nat) (live : List (St F)) (fresh : Nat) (hI : I live fresh) (h1 : live ≠ [])
    (hf : live.length ≤ fuel + 1) :
    (∃ total fresh', loopWith sched fuel live fresh = .ok total ∧ I [total] fresh') ∨
      ∃ e, loopWith sched fuel live fresh = .error e ∧ E e := by
  have two : ∀ {l : List (St F)}, l ≠ [] → (∀ s, l = [s] → False) → 2 ≤ l.length := fun h h' =>
    Nat.lt_of_le_of_ne (List.length_pos_iff.2 h) fun e => (List.length_eq_one_iff.1 e.symm).elim h'
  fun_induction loopWith sched fuel live fresh with
  | case1 | case3 => exact .inl ⟨_, _, rfl, hI⟩
  -- out of fuel with two live structures: excluded by `hf`
  | case2 live _ hne => exact absurd (two h1 hne) (Nat.not_lt.2 hf)
  -- a failed step: by `stepWith_valid` it is a failed join of two live structures, hence `E`
  | case4 fuel live fresh e hst hne =>
    obtain ⟨src, hs, tar, ht, hid, heq⟩ := stepWith_valid hv (hnd _ _ hI) (two h1 hne) fresh
    rw [hst]
    rw [heq] at hst
    cases hj : St.join src tar fresh with
    | ok c => rw [hj] at hst; cases hst
    | error e' => rw [hj] at hst; cases hst; exact .inr ⟨_, rfl, hjoin _ _ hI src hs tar ht hid _ hj⟩
  -- a step that returns leaves one structure less, so the fuel still suffices
  | case5 fuel live fresh live' hst hne ih =>
    rw [hst]
    obtain ⟨src, tar, new, hs, ht, hid, -, rfl⟩ := stepWith_cases _ _ _ _ hst
    exact ih (hstep _ _ _ hI hst) (List.append_ne_nil_of_right_ne_nil _ (List.cons_ne_nil _ _))
      (Nat.le_of_succ_le_succ ((length_step_le (new := new) hs ht hid).trans hf))

/-- a valid schedule exists: merge the first two live structures -/
def firstTwo (live : List (St F)) : Option (Nat × Nat) :=
  match live with
  | a :: b :: _ => some (a.id, b.id)
  | _ => none

theorem validSched_firstTwo : ValidSched (firstTwo (F := F)) := by
  intro live hnd h2
  rcases live with _ | ⟨a, _ | ⟨b, l⟩⟩
  · exact absurd h2 (Nat.not_succ_le_zero 1)
  · exact absurd h2 (Nat.lt_irrefl 1)
  · exact ⟨a.id, b.id, rfl, fun e => (List.nodup_cons.1 hnd).1 (List.mem_cons.2 (.inl e)),
      ⟨a, List.mem_cons_self, rfl⟩, ⟨b, List.mem_cons_of_mem _ List.mem_cons_self, rfl⟩⟩

theorem validSched_pySched : ValidSched (pySched (F := F)) := by
  intro live hnd h2
  have hp := sortByPins_perm live
  have hlen := hp.length_eq
  cases hs : sortByPins live with
  | nil => rw [hs] at hlen; rw [← hlen] at h2; exact absurd h2 (Nat.not_succ_le_zero 1)
  | cons src rest =>
    rw [hs] at hp hlen
    have hr : rest ≠ [] := by
      intro e; rw [e] at hlen; rw [← hlen] at h2; exact absurd h2 (Nat.lt_irrefl 1)
    obtain ⟨tar, hsched, htar⟩ := pySched_spec live src rest hs hr
    have hnd' : ((src :: rest).map (·.id)).Nodup := (hp.map _).nodup_iff.2 hnd
    have hsrc : src ∈ live := hp.mem_iff.1 List.mem_cons_self
    refine ⟨src.id, tar.id, hsched, ?_, ⟨src, hsrc, rfl⟩, ⟨tar, ?_, rfl⟩⟩
    · rcases htar with ht | ⟨hne, _⟩
      · intro e
        rw [List.map_cons, List.nodup_cons] at hnd'
        exact hnd'.1 (e ▸ List.mem_map.2 ⟨tar, ht, rfl⟩)
      · exact fun e => hne e.symm
    · rcases htar with ht | ⟨_, ht⟩
      · exact hp.mem_iff.1 (List.mem_cons_of_mem _ ht)
      · exact hp.mem_iff.1 ht

end Solve

namespace NetD
variable {F : Type}
open Solve

theorem initial_ids (net : NetD F) : net.initial.map (·.id) = List.range' 0 net.comps.length := by
  unfold initial
  rw [List.map_map, ← List.zipIdx_map_snd 0 net.comps]
  rfl

theorem length_initial (net : NetD F) : net.initial.length = net.comps.length := by
  simp [initial]

theorem idx_mkSt (net : NetD F) (k : Nat) (c : CompD F) (h : ∀ n ∈ c.pins, (lookupL c.idx n).isSome) :
    Idx (net.mkSt k c) := by
  rintro ⟨_, n⟩ hp
  obtain ⟨rfl, hn⟩ := (mem_pins_mkSt net k c _).1 hp
  rw [lookupL_idx_mkSt]
  exact h n hn

variable [Field F] [DecidableEq F]

/-- every pin name of every component has a matrix index (not part of `NetD.WF`) -/
def IdxWF (net : NetD F) : Prop := ∀ c ∈ net.comps, ∀ n ∈ c.pins, (lookupL c.idx n).isSome

structure DefInv (net : NetD F) (live : List (St F)) (fresh : Nat) : Prop where
  full : FullInv net.Sol net.Lnk net.comps.length (List.range net.comps.length) live fresh
  idx : ∀ s ∈ live, Idx s
  connL : ∀ s ∈ live, ConnL net.Lnk s
  idsNodup : (live.map (·.id)).Nodup

theorem defInv_initial (net : NetD F) (wf : net.WF) (hidx : net.IdxWF) : net.DefInv net.initial net.comps.length :=
  ⟨fullInv_initial net wf, forall_initial.2 fun k c hk => idx_mkSt net k c (hidx c (List.mem_of_getElem? hk)),
    forall_initial.2 fun k c _ l hl => ((wf.mem_conn_mkSt k c l).1 hl).1, by rw [initial_ids]; exact List.nodup_range' 1 Nat.one_pos⟩

theorem stepWith_def (net : NetD F) (sched) (live live' : List (St F)) (fresh : Nat)
    (inv : net.DefInv live fresh) (h : stepWith sched live fresh = .ok live') : net.DefInv live' (fresh + 1) := by
  have hfull := stepWith_full _ _ _ (fun p q h => h.symm) _ sched live live' fresh inv.full h
  obtain ⟨src, tar, new, hsm, htm, hne, hjoin, rfl⟩ := stepWith_cases _ _ _ _ h
  refine ⟨hfull, forall_mem_step inv.idx (join_idx src tar new fresh hjoin),
    forall_mem_step inv.connL fun l hl => (join_conn_sub hjoin l hl).elim (inv.connL _ hsm l) (inv.connL _ htm l), ?_⟩
  rw [List.map_append]
  refine List.nodup_append.2 ⟨(inv.idsNodup.sublist (List.filter_sublist.map _)), List.nodup_singleton _, ?_⟩
  intro a ha b hb e
  obtain ⟨r, hr, rfl⟩ := List.mem_map.1 ha
  exact join_id_ne (inv.full.linv.ids r (List.mem_of_mem_filter hr)) hjoin (e.trans (List.mem_singleton.1 hb))

/-- every `join` the loop meets under a valid schedule is one of two structures of a consistent state (the hypotheses of
`St.join_defined`) with duplicate-free pins: `P` is a predicate such joins preserve, `E` what their errors can be -/
theorem solveWith_valid (net : NetD F) (wf : net.WF) (hidx : net.IdxWF) (hne : net.comps ≠ []) {sched}
    (hv : ValidSched sched) (P : St F → Prop) (E : Err → Prop) (hP : ∀ s ∈ net.initial, P s)
    (hjoin : ∀ (s t : St F) (n : Nat), Book net.Lnk net.comps.length s → Book net.Lnk net.comps.length t →
      ConnL net.Lnk s → (∀ k, k ∈ St.membersOf s → k ∈ St.membersOf t → False) → Idx s → Idx t →
      s.pins.Nodup → t.pins.Nodup → P s → P t →
      (∀ c, St.join s t n = .ok c → P c) ∧ ∀ e, St.join s t n = .error e → E e) :
    (∃ total, net.solveWith sched = .ok total ∧ P total) ∨ ∃ e, net.solveWith sched = .error e ∧ E e := by
  have hpos : 0 < net.initial.length := by rw [length_initial]; exact List.length_pos_iff.2 hne
  have pair {l fr} (i : net.DefInv l fr ∧ ∀ s ∈ l, P s) (src) (hs : src ∈ l) (tar) (ht : tar ∈ l) (hid : src.id ≠ tar.id) :=
    hjoin src tar fr (i.1.full.book _ hs) (i.1.full.book _ ht) (i.1.connL _ hs) (i.1.full.mdisj _ hs _ ht hid)
      (i.1.idx _ hs) (i.1.idx _ ht) (i.1.full.linv.good _ hs).nodup (i.1.full.linv.good _ ht).nodup (i.2 _ hs) (i.2 _ ht)
  rcases loopWith_valid hv (fun l fr => net.DefInv l fr ∧ ∀ s ∈ l, P s) E (fun _ _ i => i.1.idsNodup)
      (fun l l' fr i hs => by
        refine ⟨stepWith_def net sched l l' fr i.1 hs, ?_⟩
        obtain ⟨src, tar, new, hsm, htm, hid, hj, rfl⟩ := stepWith_cases _ _ _ _ hs
        exact forall_mem_step i.2 ((pair i src hsm tar htm hid).1 new hj))
      (fun l fr i src hs tar ht hid e he => (pair i src hs tar ht hid).2 e he)
      net.comps.length net.initial net.comps.length ⟨defInv_initial net wf hidx, hP⟩ (List.ne_nil_of_length_pos hpos)
      (Nat.le_succ_of_le (length_initial net).le) with ⟨t, _, ht, i⟩ | ⟨e, he, hE⟩
  · exact .inl ⟨t, ht, i.2 t List.mem_cons_self⟩
  · exact .inr ⟨e, he, hE⟩

/-- with a valid schedule the elimination returns, or fails because an inner system is singular -/
theorem solveWith_defined (net : NetD F) (wf : net.WF) (hidx : net.IdxWF) (hne : net.comps ≠ [])
    (sched) (hv : ValidSched sched) :
    (∃ total, net.solveWith sched = .ok total) ∨ net.solveWith sched = .error .singular := by
  rcases solveWith_valid net wf hidx hne hv (fun _ => True) (· = .singular) (fun _ _ => trivial)
      (fun s t n bs bt cs hm is it _ _ _ _ => by
        obtain ⟨_, _, _, _, _, _, _, _, _, _, _, _, herr⟩ :=
          St.join_defined net.Lnk _ (fun p q h => h.symm) s t n bs bt cs hm is it
        exact ⟨fun _ _ => trivial, herr⟩)
    with ⟨t, ht, _⟩ | ⟨_, he, rfl⟩
  · exact .inl ⟨t, ht⟩
  · exact .inr he

end NetD
