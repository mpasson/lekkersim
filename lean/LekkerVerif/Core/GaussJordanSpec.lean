import LekkerVerif.Core.Basic

/-! `Mat.gaussJordan` (in `Basic.lean`) is written imperatively (`Id.run do`, `for`, `let mut`, early `return none`).  Here the
same algorithm is written with `foldl` for the two inner loops and a recursive function for the outer one (`gjSpec`), and
`gaussJordan_eq_spec` proves that the two are equal for every `Scalar` type.  No Mathlib is needed for this file. -/

namespace Mat
variable {F : Type} [Scalar F]

/-- initial augmented array `[A | 1]` -/
def gjInit (A : Mat F) : Array (Array F) :=
  Array.ofFn fun (i : Fin A.r) => Array.ofFn fun (j : Fin (2*A.r)) =>
    if j.1 < A.r then A.get i.1 j.1 else (if j.1 - A.r = i.1 then 1 else 0)

/-- one iteration of the pivot search: keep the first row with a non-zero entry -/
def pivStep (n col : Nat) (M : Array (Array F)) (piv r : Nat) : Nat :=
  if piv == n && !((M[r]!)[col]! == (0:F)) then r else piv

/-- pivot search over rows `col, …, n-1`; the value `n` means "not found" -/
def pivSearch (n col : Nat) (M : Array (Array F)) : Nat :=
  (List.range' col (n - col)).foldl (pivStep n col M) n

def elimStep (col : Nat) (M : Array (Array F)) (r : Nat) : Array (Array F) :=
  if r != col then
    if !((M[r]!)[col]! == (0:F)) then
      M.set! r ((M[r]!).mapIdx fun j x => x - (M[r]!)[col]! * (M[col]!)[j]!)
    else M
  else M

def swapRows (col piv : Nat) (M : Array (Array F)) : Array (Array F) :=
  (M.set! col (M[piv]!)).set! piv (M[col]!)

def scaleRow (col : Nat) (M : Array (Array F)) : Array (Array F) :=
  M.set! col ((M[col]!).map (· * ((M[col]!)[col]!)⁻¹))

def gjCol (n col : Nat) (M : Array (Array F)) : Array (Array F) :=
  (List.range' 0 n).foldl (elimStep col) (scaleRow col (swapRows col (pivSearch n col M) M))

/-- the loop `for a in l do (if c a s then return x); s := g a s`, followed by `return k s` -/
def exitLoop {α σ ρ : Type} (c : α → σ → Bool) (g : α → σ → σ) (x : ρ) (k : σ → ρ) : List α → σ → ρ
  | [], s => k s
  | a :: l, s => if c a s then x else exitLoop c g x k l (g a s)

def gjSpec (A : Mat F) : Option (Array (Array F)) :=
  exitLoop (fun col M => pivSearch A.r col M == A.r) (gjCol A.r) none some (List.range' 0 A.r) (gjInit A)

theorem ite_pure_yield {β : Type} (c : Prop) [Decidable c] (a b : β) :
    (if c then (pure (ForInStep.yield a) : Id (ForInStep β)) else pure (ForInStep.yield b)) =
      pure (ForInStep.yield (if c then a else b)) := by
  split <;> rfl

/-- what that loop desugars to: its state is the pair (early-return slot, `s`).  With the result type `ρ` a variable the
`match` below is compiled to the same auxiliary matcher as in the desugared code; two matchers of one shape are not
identified by `rfl`. -/
theorem forIn_exit {α σ ρ : Type} (c : α → σ → Bool) (g : α → σ → σ) (x : ρ) (k : σ → ρ) (l : List α) (s : σ) :
    (do
      let r ← forIn l ((none : Option ρ), s) fun a r =>
        if c a r.2 = true then pure (ForInStep.done (some x, r.2)) else pure (ForInStep.yield (none, g a r.2))
      match r.1 with
      | some y => pure y
      | none => pure (k r.2) : Id ρ).run = exitLoop c g x k l s := by
  induction l generalizing s with
  | nil => rfl
  | cons a l ih =>
    rw [List.forIn_cons, exitLoop]
    split
    · rfl
    · exact ih _

/-- the two inner loops never leave early, so they are folds; the outer loop is an `exitLoop` -/
theorem gaussJordan_eq_spec (A : Mat F) : gaussJordan A = gjSpec A := by
  unfold gaussJordan
  simp only [Std.Legacy.Range.forIn_eq_forIn_range', Std.Legacy.Range.size, Nat.add_sub_cancel, Nat.div_one,
    Nat.sub_zero, ite_pure_yield, List.forIn_pure_yield_eq_foldl, pure_bind]
  exact forIn_exit (fun col (M : Array (Array F)) => pivSearch A.r col M == A.r) (gjCol A.r) none some _ _

end Mat
