import LekkerVerif.Core.RefineAdd
import LekkerVerif.Core.SolveSpec
import LekkerVerif.Core.AbsJoin

/-! The matrix steps of `Structure.join` read as Mathlib matrices: `split_in_out` cuts `part s.sem r c` out of a
structure, and the structure built from the result `C` of `S_matrix.add` carries `C` on its pins. -/

namespace St
variable {F : Type} [Field F] [DecidableEq F] {n m : Nat}

theorem gather_toMatrix (s : St F) (r : Fin n → PinRef) (c : Fin m → PinRef) :
    (s.gather (List.ofFn r) (List.ofFn c)).toMatrix n m = blk s.sem r c := by
  unfold gather
  simp only [List.length_ofFn, Mat.toMatrix_ofFn]
  ext i j
  simp [blk]

theorem split_wf (s : St F) (i o : List PinRef) (A : SMat F) (h : s.split i o = .ok A) : A.WF := by
  obtain ⟨-, rfl⟩ := split_ok_iff.1 h
  exact ⟨rfl, rfl, rfl, rfl, rfl, rfl, rfl, rfl⟩

theorem split_spec (s : St F) (r : Fin n → PinRef) (c : Fin m → PinRef) (A : SMat F)
    (h : s.split (List.ofFn r) (List.ofFn c) = .ok A) :
    A.N = n ∧ A.M = m ∧ A.WF ∧ A.toSM n m = part s.sem r c := by
  have wf := split_wf s _ _ A h
  obtain ⟨-, rfl⟩ := split_ok_iff.1 h
  exact ⟨List.length_ofFn, List.length_ofFn, wf, by simp only [SMat.toSM, part, gather_toMatrix]⟩

theorem assemble_get (C : SMat F) (i j : Nat) (hi : i < C.N + C.M) (hj : j < C.N + C.M) :
    (assemble C).get i j =
      if i < C.N then (if j < C.N then C.S21.get i j else C.S22.get i (j - C.N))
      else (if j < C.N then C.S11.get (i - C.N) j else C.S12.get (i - C.N) (j - C.N)) := by
  unfold assemble
  rw [Mat.get_ofFn _ _ _ _ _ hi hj]

theorem build_part (self st : St F) (newId : Nat) (C : SMat F) (r : Fin n → PinRef) (c : Fin m → PinRef)
    (hnd : (List.ofFn r ++ List.ofFn c).Nodup) (hN : C.N = n) (hM : C.M = m) :
    part (build self st newId C (List.ofFn r ++ List.ofFn c)).sem r c = C.toSM n m := by
  subst hN hM
  rw [← List.ofFn_fin_append] at hnd ⊢
  -- the pin at position `z` of the new pin list is looked up at `z`
  have e (z : Fin (C.N + C.M)) : lookupL (List.ofFn (Fin.append r c)).zipIdx (Fin.append r c z) = some z.1 := by
    have := lookupL_zipIdx _ z.1 (by simp) hnd
    rwa [List.getElem_ofFn] at this
  -- so an entry of the new matrix, addressed by positions, is the entry of `assemble C`
  have sem (x y : Fin (C.N + C.M)) :=
    (show (build self st newId C (List.ofFn (Fin.append r c))).sem (Fin.append r c x) (Fin.append r c y)
        = (assemble C).get x y by simp only [sem, build, e]).trans (assemble_get C x y x.2 y.2)
  have l (i : Fin C.N) : r i = Fin.append r c (Fin.castAdd C.M i) := (Fin.append_left r c i).symm
  have k (j : Fin C.M) : c j = Fin.append r c (Fin.natAdd C.N j) := (Fin.append_right r c j).symm
  -- the four blocks: first-side pins sit at positions `< C.N`, second-side pins at `C.N + _`
  simp only [part, SMat.toSM, SM.mk.injEq]
  refine ⟨?_, ?_, ?_, ?_⟩ <;> ext i j <;>
    simp only [blk, Mat.toMatrix, l, k, sem, Fin.val_natAdd, Fin.val_castAdd, Fin.is_lt, add_lt_iff_neg_left,
      not_lt_zero, ↓reduceIte, add_tsub_cancel_left]

end St
