import LekkerVerif.Core.Subst

/-! Two networks side by side without a link between them: the whole behaves, on the pins each side owns, like that
side alone, and nothing couples the two sides (C12: every sub-circuit returned by `split()` behaves like the original).
Conversely a network cut along a predicate on its pins that no link crosses (`ANet.Splits`) is its two sides side by side
(`ANet.inside`, `ANet.union_sides_solvedBy`), and an operator of two sides side by side solves each side (`ANet.sides_of_union`). -/

variable {F : Type*} [Field F]
variable {P : Type*}

namespace ANet

/-- the two networks in one: all parts, all links, all exposed pins -/
def union (N₁ N₂ : ANet P F) : ANet P F :=
  { parts := N₁.parts ++ N₂.parts, links := N₁.links ++ N₂.links, exposed := N₁.exposed ++ N₂.exposed }

/-- the two sides do not touch: no common pin, links and exposed pins stay on their own side -/
structure Apart (N₁ N₂ : ANet P F) : Prop where
  disjoint : ∀ p, N₁.pinSet p → ¬ N₂.pinSet p
  links₁ : ∀ l ∈ N₁.links, N₁.pinSet l.1 ∧ N₁.pinSet l.2
  links₂ : ∀ l ∈ N₂.links, N₂.pinSet l.1 ∧ N₂.pinSet l.2
  exp₁ : ∀ e ∈ N₁.exposed, N₁.pinSet e
  exp₂ : ∀ e ∈ N₂.exposed, N₂.pinSet e

variable {N₁ N₂ : ANet P F}

omit [Field F] in
theorem union_lnk_iff (p q : P) : (union N₁ N₂).Lnk p q ↔ (N₁.Lnk p q ∨ N₂.Lnk p q) := lnk_append rfl p q

omit [Field F] in
theorem Apart.symm (ap : Apart N₁ N₂) : Apart N₂ N₁ :=
  ⟨fun p h2 h1 => ap.disjoint p h1 h2, ap.links₂, ap.links₁, ap.exp₂, ap.exp₁⟩

theorem union_comm_sol (a b : P → F) (h : (union N₁ N₂).Sol a b) : (union N₂ N₁).Sol a b :=
  sol_of_sameNE _ _ (fun _ _ => List.perm_append_comm.mem_iff) (fun _ => List.perm_append_comm.mem_iff)
    (fun _ => List.perm_append_comm.mem_iff) a b h

theorem union_sol_iff (ap : Apart N₁ N₂) (a b : P → F) : (union N₁ N₂).Sol a b ↔ N₁.Sol a b ∧ N₂.Sol a b := by
  -- a solution of the whole is a solution of the first side, and of the second by symmetry
  have left : ∀ {N₁ N₂ : ANet P F}, Apart N₁ N₂ → (union N₁ N₂).Sol a b → N₁.Sol a b := by
    intro N₁ N₂ ap h
    refine ⟨fun part hp => h.comp part (List.mem_append_left _ hp), fun l hl => h.link l (List.mem_append_left _ hl), ?_⟩
    intro part hp p hpp hfree hne
    have hin : N₁.pinSet p := ⟨part, hp, hpp⟩
    refine h.free part (List.mem_append_left _ hp) p hpp (fun q hq => ?_) (fun hE => ?_)
    · rcases (union_lnk_iff p q).1 hq with hq | hq | hq
      · exact hfree q hq
      · exact ap.disjoint p hin (ap.links₂ _ hq).1
      · exact ap.disjoint p hin (ap.links₂ _ hq).2
    · exact (List.mem_append.1 hE).elim hne fun hE => ap.disjoint p hin (ap.exp₂ p hE)
  refine ⟨fun h => ⟨left ap h, left ap.symm (union_comm_sol a b h)⟩, ?_⟩
  rintro ⟨h₁, h₂⟩
  refine ⟨List.forall_mem_append.2 ⟨h₁.comp, h₂.comp⟩, List.forall_mem_append.2 ⟨h₁.link, h₂.link⟩, ?_⟩
  intro part hp p hpp hfree hne
  have hf := fun q => not_or.1 (mt (union_lnk_iff p q).2 (hfree q))
  have he := not_or.1 (mt List.mem_append.2 hne)
  exact (List.mem_append.1 hp).elim (fun hp => h₁.free part hp p hpp (fun q => (hf q).1) he.1)
    fun hp => h₂.free part hp p hpp (fun q => (hf q).2) he.2

theorem sol_union_of_sides (ap : Apart N₁ N₂) (a₁ b₁ a₂ b₂ : P → F) (h₁ : N₁.Sol a₁ b₁) (h₂ : N₂.Sol a₂ b₂) :
    ∃ a b, (union N₁ N₂).Sol a b ∧ (∀ p, N₁.pinSet p → a p = a₁ p ∧ b p = b₁ p) ∧ (∀ p, N₂.pinSet p → a p = a₂ p ∧ b p = b₂ p) := by
  obtain ⟨a, b, s₁, s₂, g₁, g₂⟩ := sol_glue N₁.pinSet h₁ h₂ (fun p => pinSet_of_mentions ap.links₁ ap.exp₁)
    fun p hp hin => absurd (pinSet_of_mentions ap.links₂ ap.exp₂ hp) (ap.disjoint p hin)
  exact ⟨a, b, (union_sol_iff ap a b).2 ⟨s₁, s₂⟩, g₁, fun p hp => g₂ p fun hin => absurd hp (ap.disjoint p hin)⟩

/-- the operator of the whole: each side's operator on its own pins, zero across -/
def sumOp (N₁ : ANet P F) (T₁ T₂ : P → P → F) [∀ p, Decidable (N₁.pinSet p)] (e y : P) : F :=
  if N₁.pinSet e then (if N₁.pinSet y then T₁ e y else 0) else (if N₁.pinSet y then 0 else T₂ e y)

theorem sumOp_exposed (ap : Apart N₁ N₂) (T₁ T₂ : P → P → F) [∀ p, Decidable (N₁.pinSet p)] :
    (∀ x ∈ N₁.exposed, ∀ y ∈ N₁.exposed, sumOp N₁ T₁ T₂ x y = T₁ x y) ∧
    (∀ x ∈ N₂.exposed, ∀ y ∈ N₂.exposed, sumOp N₁ T₁ T₂ x y = T₂ x y) ∧
    (∀ x ∈ N₁.exposed, ∀ y ∈ N₂.exposed, sumOp N₁ T₁ T₂ x y = 0 ∧ sumOp N₁ T₁ T₂ y x = 0) := by
  have i₁ : ∀ x ∈ N₁.exposed, N₁.pinSet x := ap.exp₁
  have i₂ : ∀ x ∈ N₂.exposed, ¬ N₁.pinSet x := fun x hx h => ap.disjoint x h (ap.exp₂ x hx)
  unfold sumOp
  refine ⟨fun x hx y hy => ?_, fun x hx y hy => ?_, fun x hx y hy => ⟨?_, ?_⟩⟩
  · rw [if_pos (i₁ x hx), if_pos (i₁ y hy)]
  · rw [if_neg (i₂ x hx), if_neg (i₂ y hy)]
  · rw [if_pos (i₁ x hx), if_neg (i₂ y hy)]
  · rw [if_neg (i₂ y hy), if_pos (i₁ x hx)]

theorem union_solvedBy (ap : Apart N₁ N₂) (T₁ T₂ : P → P → F) (h₁ : N₁.SolvedBy T₁) (h₂ : N₂.SolvedBy T₂)
    [∀ p, Decidable (N₁.pinSet p)] : (union N₁ N₂).SolvedBy (sumOp N₁ T₁ T₂) := by
  obtain ⟨s₁, s₂, s₃⟩ := sumOp_exposed ap T₁ T₂
  constructor
  · intro a b h e he
    show b e = rowSum (N₁.exposed ++ N₂.exposed) (sumOp N₁ T₁ T₂) a e
    rw [rowSum_append]
    rcases List.mem_append.1 he with he | he
    · rw [h₁.1 a b ((union_sol_iff ap a b).1 h).1 e he, rowSum_zero N₂.exposed _ a e fun q hq => .inl (s₃ e he q hq).1, add_zero]
      exact rowSum_congrS _ _ _ _ _ fun q hq => (s₁ e he q hq).symm
    · rw [h₂.1 a b ((union_sol_iff ap a b).1 h).2 e he, rowSum_zero N₁.exposed _ a e fun q hq => .inl (s₃ q hq e he).2, zero_add]
      exact rowSum_congrS _ _ _ _ _ fun q hq => (s₂ e he q hq).symm
  · intro v
    obtain ⟨a₁, b₁, s₁, v₁⟩ := h₁.2 v
    obtain ⟨a₂, b₂, s₂, v₂⟩ := h₂.2 v
    obtain ⟨a, b, hs, g₁, g₂⟩ := sol_union_of_sides ap a₁ b₁ a₂ b₂ s₁ s₂
    refine ⟨a, b, hs, fun e he => ?_⟩
    rcases List.mem_append.1 he with he | he
    · rw [(g₁ e (ap.exp₁ e he)).1]; exact v₁ e he
    · rw [(g₂ e (ap.exp₂ e he)).1]; exact v₂ e he

/-- C12 for two sides: an operator of the whole is, on the exposed pins of a side, that side's own operator, and it does not
couple the sides -/
theorem component_behaves (ap : Apart N₁ N₂) (hn : (N₁.exposed ++ N₂.exposed).Nodup) (T T₁ T₂ : P → P → F)
    (h₁ : N₁.SolvedBy T₁) (h₂ : N₂.SolvedBy T₂) (hT : (union N₁ N₂).SolvedBy T) :
    (∀ x ∈ N₁.exposed, ∀ y ∈ N₁.exposed, T x y = T₁ x y) ∧ (∀ x ∈ N₂.exposed, ∀ y ∈ N₂.exposed, T x y = T₂ x y) ∧
    (∀ x ∈ N₁.exposed, ∀ y ∈ N₂.exposed, T x y = 0 ∧ T y x = 0) := by
  classical
  have key := solvedBy_unique (union N₁ N₂) hn T (sumOp N₁ T₁ T₂) hT (union_solvedBy ap T₁ T₂ h₁ h₂)
  obtain ⟨s₁, s₂, s₃⟩ := sumOp_exposed ap T₁ T₂
  have l : ∀ x ∈ N₁.exposed, x ∈ (union N₁ N₂).exposed := fun x hx => List.mem_append_left _ hx
  have r : ∀ x ∈ N₂.exposed, x ∈ (union N₁ N₂).exposed := fun x hx => List.mem_append_right _ hx
  exact ⟨fun x hx y hy => (key x (l x hx) y (l y hy)).trans (s₁ x hx y hy),
    fun x hx y hy => (key x (r x hx) y (r y hy)).trans (s₂ x hx y hy),
    fun x hx y hy => ⟨(key x (l x hx) y (r y hy)).trans (s₃ x hx y hy).1, (key y (r y hy) x (l x hx)).trans (s₃ x hx y hy).2⟩⟩

theorem sol_zero (N : ANet P F) : N.Sol (fun _ => 0) (fun _ => 0) := by
  refine ⟨?_, fun _ _ => ⟨rfl, rfl⟩, fun _ _ _ _ _ _ => rfl⟩
  intro part _ p _
  exact (rowSum_zero part.1 part.2 (fun _ => 0) p fun _ _ => .inr rfl).symm

variable [DecidableEq P]

theorem sides_of_union {N₁ N₂ : ANet P F} (ap : Apart N₁ N₂) (T : P → P → F) (hT : (union N₁ N₂).SolvedBy T) :
    N₁.SolvedBy T ∧ N₂.SolvedBy T := by
  -- the first side: glue a solution of it with the zero solution of the other side; the second by symmetry
  have left : ∀ {N₁ N₂ : ANet P F}, Apart N₁ N₂ → (union N₁ N₂).SolvedBy T → N₁.SolvedBy T := by
    intro N₁ N₂ ap hT
    constructor
    · intro a b h e he
      obtain ⟨a', b', hs, g₁, g₂⟩ := sol_union_of_sides ap a b (fun _ => 0) (fun _ => 0) h (sol_zero N₂)
      have := hT.1 a' b' hs e (List.mem_append_left _ he)
      rw [show (union N₁ N₂).exposed = N₁.exposed ++ N₂.exposed from rfl, rowSum_append,
        rowSum_zero N₂.exposed T a' e fun q hq => .inr (g₂ q (ap.exp₂ q hq)).1, add_zero,
        (g₁ e (ap.exp₁ e he)).2] at this
      rw [this]
      exact rowSum_congr _ _ _ _ _ (fun q hq => (g₁ q (ap.exp₁ q hq)).1)
    · intro v
      obtain ⟨a, b, hs, hv⟩ := hT.2 v
      exact ⟨a, b, ((union_sol_iff ap a b).1 hs).1, fun e he => hv e (List.mem_append_left _ he)⟩
  exact ⟨left ap hT, left ap.symm
    (hT.of_sol_iff (fun a b => ⟨union_comm_sol a b, union_comm_sol a b⟩) List.perm_append_comm)⟩

/-- the side of a network inside `I`: the parts with a pin inside, the links that start inside, the exposed pins inside -/
def inside (N : ANet P F) (I : P → Bool) : ANet P F :=
  { parts := N.parts.filter (fun part => part.1.any I), links := N.links.filter (fun l => I l.1),
    exposed := N.exposed.filter I }

/-- `I` cuts the network without cutting a part or a link (and the description is closed) -/
structure Splits (N : ANet P F) (I : P → Bool) : Prop where
  parts : ∀ part ∈ N.parts, ∀ p ∈ part.1, ∀ q ∈ part.1, I p = I q
  links : ∀ l ∈ N.links, I l.1 = I l.2
  linkPins : ∀ l ∈ N.links, N.pinSet l.1 ∧ N.pinSet l.2
  expPins : ∀ e ∈ N.exposed, N.pinSet e

variable {N : ANet P F} {I : P → Bool}

omit [Field F] [DecidableEq P] in
/-- the complement cuts the network as well: the other side is `N.inside fun p => !I p` -/
theorem Splits.not (sp : Splits N I) : Splits N fun p => !I p :=
  ⟨fun part hp p hpp q hq => congrArg (!·) (sp.parts part hp p hpp q hq), fun l hl => congrArg (!·) (sp.links l hl),
    sp.linkPins, sp.expPins⟩

omit [Field F] [DecidableEq P] in
theorem pinSet_inside (sp : Splits N I) (p : P) : (N.inside I).pinSet p ↔ N.pinSet p ∧ I p = true := by
  constructor
  · rintro ⟨part, hp, hpp⟩
    obtain ⟨h1, h2⟩ := List.mem_filter.1 hp
    obtain ⟨q, hq, hIq⟩ := List.any_eq_true.1 h2
    exact ⟨⟨part, h1, hpp⟩, by rw [sp.parts part h1 p hpp q hq]; exact hIq⟩
  · rintro ⟨⟨part, hp, hpp⟩, hI⟩
    exact ⟨part, List.mem_filter.2 ⟨hp, List.any_eq_true.2 ⟨p, hpp, hI⟩⟩, hpp⟩

omit [Field F] [DecidableEq P] in
theorem inside_closed (sp : Splits N I) :
    (∀ l ∈ (N.inside I).links, (N.inside I).pinSet l.1 ∧ (N.inside I).pinSet l.2) ∧
    ∀ e ∈ (N.inside I).exposed, (N.inside I).pinSet e := by
  constructor
  · intro l hl
    obtain ⟨h1, h2⟩ := List.mem_filter.1 hl
    obtain ⟨p1, p2⟩ := sp.linkPins l h1
    exact ⟨(pinSet_inside sp _).2 ⟨p1, h2⟩, (pinSet_inside sp _).2 ⟨p2, sp.links l h1 ▸ h2⟩⟩
  · intro e he
    obtain ⟨h1, h2⟩ := List.mem_filter.1 he
    exact (pinSet_inside sp _).2 ⟨sp.expPins e h1, h2⟩

omit [Field F] [DecidableEq P] in
theorem apart_of_splits (sp : Splits N I) : Apart (N.inside I) (N.inside fun p => !I p) :=
  ⟨fun p h1 h2 => by simpa [((pinSet_inside sp p).1 h1).2] using ((pinSet_inside sp.not p).1 h2).2,
    (inside_closed sp).1, (inside_closed sp.not).1, (inside_closed sp).2, (inside_closed sp.not).2⟩

theorem union_sides_solvedBy (T : P → P → F) (h : N.SolvedBy T) :
    (union (N.inside I) (N.inside fun p => !I p)).SolvedBy T := by
  refine solvedBy_of_sameNE N _ ?_ ?_ (List.filter_append_perm I N.exposed).symm T h
  · intro part hne
    obtain ⟨q, hq⟩ := List.exists_mem_of_ne_nil _ hne
    have : part.1.any I = true ∨ part.1.any (fun p => !I p) = true := by
      cases hI : I q
      · exact Or.inr (List.any_eq_true.2 ⟨q, hq, by rw [hI]; rfl⟩)
      · exact Or.inl (List.any_eq_true.2 ⟨q, hq, hI⟩)
    show part ∈ N.parts ↔ part ∈ N.parts.filter _ ++ N.parts.filter _
    rw [List.mem_append, List.mem_filter, List.mem_filter, ← and_or_left, and_iff_left this]
  · intro l
    show l ∈ N.links ↔ l ∈ N.links.filter (fun l => I l.1) ++ N.links.filter (fun l => !I l.1)
    rw [List.mem_append, List.mem_filter, List.mem_filter]
    cases I l.1 <;> simp

theorem inside_solvedBy (sp : Splits N I) (T : P → P → F) (hT : N.SolvedBy T) : (N.inside I).SolvedBy T :=
  (sides_of_union (apart_of_splits sp) T (union_sides_solvedBy T hT)).1

theorem inside_behaves (sp : Splits N I) (hn : N.exposed.Nodup) (T T₁ : P → P → F) (hT : N.SolvedBy T)
    (h₁ : (N.inside I).SolvedBy T₁) :
    ∀ x ∈ N.exposed, ∀ y ∈ N.exposed, I x = true → I y = true → T x y = T₁ x y :=
  fun x hx y hy ix iy => solvedBy_unique _ (hn.sublist List.filter_sublist) T T₁ (inside_solvedBy sp T hT) h₁
    x (List.mem_filter.2 ⟨hx, ix⟩) y (List.mem_filter.2 ⟨hy, iy⟩)

theorem across_zero (sp : Splits N I) (hn : N.exposed.Nodup) (T : P → P → F) (hT : N.SolvedBy T) :
    ∀ x ∈ N.exposed, ∀ y ∈ N.exposed, I x = true → I y = false → T x y = 0 ∧ T y x = 0 := by
  intro x hx y hy ix iy
  exact (component_behaves (apart_of_splits sp) ((List.filter_append_perm I N.exposed).nodup_iff.2 hn) T T T
      (inside_solvedBy sp T hT) (inside_solvedBy sp.not T hT) (union_sides_solvedBy T hT)).2.2
    x (List.mem_filter.2 ⟨hx, ix⟩) y (List.mem_filter.2 ⟨hy, by rw [iy]; rfl⟩)

end ANet
