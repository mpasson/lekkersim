import LekkerVerif.Core.Complete

/-! Properties of a structure's matrix that every `join` preserves (network-level C08): reciprocity, losslessness for any
pairing, passivity for any power functional.  Each is read along a partition of the pins as the same property of the
partitioned matrix (`recip_iff_part`, `losslessW_iff_part`, `passiveW_iff_part`), which the star product preserves, so
`join` preserves it (`St.join_of_part`); `loopWith_preserves` carries it through the elimination for an arbitrary schedule
(`solveWith_preserves`).  The last section states the same properties of a component on its own pin names; the
structure a network builds from it (`NetD.mkSt`) then has the `St.` property. -/

namespace St
variable {F : Type} [Field F] [DecidableEq F]

def Recip (s : St F) : Prop := ∀ p ∈ s.pins, ∀ q ∈ s.pins, s.sem p q = s.sem q p

theorem recip_iff_part {n m : ℕ} {r : Fin n → PinRef} {c : Fin m → PinRef} {s : St F}
    (h : s.pins.Perm (List.ofFn r ++ List.ofFn c)) : s.Recip ↔ (part s.sem r c).Reciprocal := by
  constructor
  · intro hr
    have mr (i) : r i ∈ s.pins := (mem_of_perm h _).2 (.inl ⟨i, rfl⟩)
    have mc (j) : c j ∈ s.pins := (mem_of_perm h _).2 (.inr ⟨j, rfl⟩)
    exact ⟨Matrix.ext fun i j => hr _ (mr j) _ (mr i), Matrix.ext fun i j => hr _ (mc j) _ (mc i),
      Matrix.ext fun i j => hr _ (mr j) _ (mc i)⟩
  · rintro ⟨h21, h12, h22⟩ p hp q hq
    rcases (mem_of_perm h p).1 hp with ⟨i, rfl⟩ | ⟨i, rfl⟩ <;> rcases (mem_of_perm h q).1 hq with ⟨j, rfl⟩ | ⟨j, rfl⟩
    · exact congrFun (congrFun h21 j) i
    · exact congrFun (congrFun h22 j) i
    · exact (congrFun (congrFun h22 i) j).symm
    · exact congrFun (congrFun h12 j) i

theorem join_of_part {Pr : St F → Prop} (Q : ∀ {n m : ℕ}, SM F (Fin n) (Fin m) → Prop)
    (hpart : ∀ {n m : ℕ} {r : Fin n → PinRef} {c : Fin m → PinRef} {s : St F}, s.pins.Nodup →
      s.pins.Perm (List.ofFn r ++ List.ofFn c) → (Pr s ↔ Q (part s.sem r c)))
    (hstar : ∀ {n k m : ℕ} (A : SM F (Fin n) (Fin k)) (B : SM F (Fin k) (Fin m)),
      IsUnit (1 - A.S12 * B.S21) → Q A → Q B → Q (A.add B))
    (self st c : St F) (newId : Nat)
    (hs : self.pins.Nodup) (ht : st.pins.Nodup) (hd : ∀ p, p ∈ self.pins → p ∈ st.pins → False)
    (ps : Pr self) (pt : Pr st) (h : join self st newId = .ok c) : Pr c := by
  obtain ⟨links, k₁, k₂, j⟩ := join_spec self st c newId hs ht hd h
  rw [hpart j.nodup j.perm, j.sem]
  exact hstar _ _ j.unit ((hpart hs j.perm₁).1 ps) ((hpart ht j.perm₂).1 pt)

theorem join_recip (self st c : St F) (newId : Nat)
    (hs : self.pins.Nodup) (ht : st.pins.Nodup) (hd : ∀ p, p ∈ self.pins → p ∈ st.pins → False)
    (rs : self.Recip) (rt : st.Recip) (h : join self st newId = .ok c) : c.Recip :=
  join_of_part SM.Reciprocal (fun _ h => recip_iff_part h) (fun A B h => star_reciprocal A B h)
    self st c newId hs ht hd rs rt h

end St

namespace NetD
variable {F : Type} [Field F] [DecidableEq F]
open Solve

theorem solveWith_preserves (net : NetD F) (wf : net.WF) (Pr : St F → Prop)
    (hjoin : ∀ (s t c : St F) (newId : Nat), s.pins.Nodup → t.pins.Nodup → Disj s t → Pr s → Pr t →
      St.join s t newId = .ok c → Pr c)
    (sched) (total : St F) (h : net.solveWith sched = .ok total) (h0 : ∀ s ∈ net.initial, Pr s) : Pr total :=
  loopWith_preserves net.Sol Pr hjoin sched _ _ _ total (fullInv_initial net wf).linv h0 h

end NetD

section lossless
variable {F : Type} [Field F] [DecidableEq F]
variable {R : Type*} [AddCommGroup R]

/-- pairing of two wave assignments over a list of pins -/
def pairL (φ : F → F → R) (l : List PinRef) (x y : PinRef → F) : R := (l.map fun p => φ (x p) (y p)).sum

/-- the same pairing over a finite index type -/
def ipφ (φ : F → F → R) {ι : Type*} [Fintype ι] (x y : ι → F) : R := ∑ i, φ (x i) (y i)

omit [Field F] [DecidableEq F] in
theorem pairL_perm (φ : F → F → R) {l l' : List PinRef} (h : l.Perm l') (x y : PinRef → F) :
    pairL φ l x y = pairL φ l' x y := by
  unfold pairL; exact (h.map _).sum_eq

theorem pairL_append (φ : F → F → R) (l₁ l₂ : List PinRef) (x y : PinRef → F) :
    pairL φ (l₁ ++ l₂) x y = pairL φ l₁ x y + pairL φ l₂ x y := by
  unfold pairL; simp

/-- the output wave of a structure at pin `p` for input assignment `a` -/
def St.out (s : St F) (a : PinRef → F) (p : PinRef) : F := rowSum s.pins s.sem a p

def St.LosslessW (φ : F → F → R) (s : St F) : Prop :=
  ∀ a a' : PinRef → F, pairL φ s.pins (s.out a') (s.out a) = pairL φ s.pins a' a

theorem St.losslessW_iff_part {n m : ℕ} {r : Fin n → PinRef} {c : Fin m → PinRef} (φ : F → F → R) {s : St F}
    (hnd : s.pins.Nodup) (h : s.pins.Perm (List.ofFn r ++ List.ofFn c)) :
    s.LosslessW φ ↔ (part s.sem r c).LosslessWrt (ipφ φ) (ipφ φ) := by
  simp only [St.LosslessW, pairL, sum_map_of_perm h]
  -- two wave assignments are quantified, `a` and `a'`: one `forall_waves_iff` for each
  exact (forall_waves_iff hnd h s.sem fun u g o₁ o₂ =>
      ∀ a', ipφ φ (s.out a' ∘ r) o₁ + ipφ φ (s.out a' ∘ c) o₂ = ipφ φ (a' ∘ r) u + ipφ φ (a' ∘ c) g).trans
    (forall₂_congr fun u g => forall_waves_iff hnd h s.sem fun u' g' o₁' o₂' =>
      ipφ φ o₁' _ + ipφ φ o₂' _ = ipφ φ u' u + ipφ φ g' g)

end lossless

section passive
variable {F : Type} [Field F] [DecidableEq F]
variable {R : Type*} [AddCommGroup R] [PartialOrder R]

/-- total power of a wave assignment over a list of pins -/
def sumL (w : F → R) (l : List PinRef) (x : PinRef → F) : R := (l.map fun p => w (x p)).sum
/-- the same over a finite index type -/
def pwφ (w : F → R) {ι : Type*} [Fintype ι] (x : ι → F) : R := ∑ i, w (x i)

theorem sumL_perm (w : F → R) {l l' : List PinRef} (h : l.Perm l') (x : PinRef → F) : sumL w l x = sumL w l' x := by
  unfold sumL; exact (h.map _).sum_eq
theorem sumL_append (w : F → R) (l₁ l₂ : List PinRef) (x : PinRef → F) : sumL w (l₁ ++ l₂) x = sumL w l₁ x + sumL w l₂ x := by
  unfold sumL; simp

/-- a structure is passive with respect to the power functional `w` (per-pin power `w (amplitude)`) -/
def St.PassiveW (w : F → R) (s : St F) : Prop :=
  ∀ a : PinRef → F, sumL w s.pins (s.out a) ≤ sumL w s.pins a

theorem St.passiveW_iff_part {n m : ℕ} {r : Fin n → PinRef} {c : Fin m → PinRef} (w : F → R) {s : St F}
    (hnd : s.pins.Nodup) (h : s.pins.Perm (List.ofFn r ++ List.ofFn c)) :
    s.PassiveW w ↔ (part s.sem r c).PassiveWrt (pwφ w) (pwφ w) := by
  simp only [St.PassiveW, sumL, sum_map_of_perm h]
  exact forall_waves_iff hnd h s.sem fun u g o₁ o₂ => pwφ w o₁ + pwφ w o₂ ≤ pwφ w u + pwφ w g

end passive

namespace CompD
variable {F : Type}

theorem sum_mkSt {M : Type*} [AddCommMonoid M] (net : NetD F) (k : Nat) (c : CompD F) (f : PinRef → M) :
    ((net.mkSt k c).pins.map f).sum = (c.pins.map fun x => f (k, x)).sum := by
  show ((c.pins.map fun n => ((k, n) : PinRef)).map f).sum = _
  rw [List.map_map]; rfl

variable [Field F] [DecidableEq F]

def Recip (c : CompD F) : Prop := ∀ x ∈ c.pins, ∀ y ∈ c.pins, c.sem x y = c.sem y x

def out (c : CompD F) (a : String → F) (x : String) : F := (c.pins.map fun y => c.sem x y * a y).sum

def LosslessW {R : Type*} [AddCommGroup R] (φ : F → F → R) (c : CompD F) : Prop :=
  ∀ a a' : String → F,
    (c.pins.map fun x => φ (c.out a' x) (c.out a x)).sum = (c.pins.map fun x => φ (a' x) (a x)).sum

def PassiveW {R : Type*} [AddCommGroup R] [PartialOrder R] (w : F → R) (c : CompD F) : Prop :=
  ∀ a : String → F, (c.pins.map fun x => w (c.out a x)).sum ≤ (c.pins.map fun x => w (a x)).sum

theorem mkSt_out (net : NetD F) (k : Nat) (c : CompD F) (a : PinRef → F) (x : String) :
    (net.mkSt k c).out a (k, x) = c.out (fun n => a (k, n)) x := by
  unfold St.out rowSum CompD.out
  rw [sum_mkSt]
  simp only [NetD.mkSt_sem]

theorem mkSt_recip (net : NetD F) (k : Nat) (c : CompD F) (h : c.Recip) : (net.mkSt k c).Recip := by
  intro p hp q hq
  obtain ⟨x, hx, rfl⟩ := List.mem_map.1 hp
  obtain ⟨y, hy, rfl⟩ := List.mem_map.1 hq
  rw [NetD.mkSt_sem, NetD.mkSt_sem]
  exact h x hx y hy

theorem mkSt_lossless {R : Type*} [AddCommGroup R] (φ : F → F → R) (net : NetD F) (k : Nat) (c : CompD F)
    (h : c.LosslessW φ) : (net.mkSt k c).LosslessW φ := by
  intro a a'
  simp only [pairL, sum_mkSt, mkSt_out]
  exact h _ _

theorem mkSt_passive {R : Type*} [AddCommGroup R] [PartialOrder R] (w : F → R) (net : NetD F) (k : Nat) (c : CompD F)
    (h : c.PassiveW w) : (net.mkSt k c).PassiveW w := by
  intro a
  simp only [sumL, sum_mkSt, mkSt_out]
  exact h _

theorem passive_of_mkSt {R : Type*} [AddCommGroup R] [PartialOrder R] [IsOrderedAddMonoid R] (w : F → R)
    (net : NetD F) (k : Nat) (c : CompD F) (h : (net.mkSt k c).PassiveW w) : c.PassiveW w := by
  intro a
  have := h fun p => a p.2
  simp only [sumL, sum_mkSt, mkSt_out] at this
  exact this

/-- the reflection-free symmetric two-port `[[0, t], [t, 0]]` on the pins `"a"`, `"b"` -/
theorem sem_crossed (t : F) (c : CompD F) (hc : c = ⟨["a", "b"], [("a", 0), ("b", 1)], ⟨2, 2, #[0, t, t, 0]⟩⟩) :
    c.sem "a" "a" = 0 ∧ c.sem "a" "b" = t ∧ c.sem "b" "a" = t ∧ c.sem "b" "b" = 0 := by
  subst hc
  exact ⟨rfl, rfl, rfl, rfl⟩

end CompD
