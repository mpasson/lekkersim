import LekkerVerif.Core.HierSolve
import LekkerVerif.Core.RefineBook
import LekkerVerif.Core.HierLists

/-! The network equations `NetD.Sol` of a description, its well-formedness `NetD.WF`, the initial structures (`mkSt`) and
the invariants they start with; soundness of the executable solve for any schedule (`solveWith_sound`) and the read-out
on the exposed pins (`solveWith_readout`). -/

namespace NetD
variable {F : Type}

def Lnk (net : NetD F) (p q : PinRef) : Prop := (p, q) ∈ net.links ∨ (q, p) ∈ net.links

theorem Lnk.symm {net : NetD F} {p q : PinRef} (h : net.Lnk p q) : net.Lnk q p := Or.symm h

theorem not_lnk_iff (net : NetD F) (p : PinRef) : (∀ q, ¬ net.Lnk p q) ↔ ∀ l ∈ net.links, p ≠ l.1 ∧ p ≠ l.2 :=
  List.not_lnk_iff net.links p

structure WF (net : NetD F) : Prop where
  pinsNodup : ∀ c ∈ net.comps, c.pins.Nodup
  endsNodup : (net.links.flatMap fun l => [l.1, l.2]).Nodup       -- every pin in at most one link
  endsPins  : ∀ l ∈ net.links, ∀ p, (p = l.1 ∨ p = l.2) → ∃ c, net.comps[p.1]? = some c ∧ p.2 ∈ c.pins
  noSelf    : ∀ l ∈ net.links, l.1.1 ≠ l.2.1

theorem WF.lnk_pin {net : NetD F} (wf : net.WF) {p q : PinRef} (h : net.Lnk p q) :
    ∃ c, net.comps[p.1]? = some c ∧ p.2 ∈ c.pins :=
  h.elim (fun hl => wf.endsPins _ hl p (.inl rfl)) fun hl => wf.endsPins _ hl p (.inr rfl)

theorem WF.lnk_lt {net : NetD F} (wf : net.WF) {p q : PinRef} (h : net.Lnk p q) : p.1 < net.comps.length :=
  let ⟨_, hc, _⟩ := wf.lnk_pin h
  (List.getElem?_eq_some_iff.1 hc).1

theorem WF.lnk_ne {net : NetD F} (wf : net.WF) {p q : PinRef} (h : net.Lnk p q) : p.1 ≠ q.1 :=
  h.elim (wf.noSelf (p, q)) fun hl => (wf.noSelf (q, p) hl).symm

theorem mem_initial (net : NetD F) (s : St F) :
    s ∈ net.initial ↔ ∃ k c, net.comps[k]? = some c ∧ s = net.mkSt k c := by
  unfold initial
  simp only [List.mem_map, List.mem_zipIdx_iff_getElem?, Prod.exists]
  constructor
  · rintro ⟨c, k, h, rfl⟩; exact ⟨k, c, h, rfl⟩
  · rintro ⟨k, c, h, rfl⟩; exact ⟨c, k, h, rfl⟩

theorem forall_initial {net : NetD F} {P : St F → Prop} :
    (∀ s ∈ net.initial, P s) ↔ ∀ k c, net.comps[k]? = some c → P (net.mkSt k c) :=
  ⟨fun h k c hk => h _ ((mem_initial net _).2 ⟨k, c, hk, rfl⟩),
    fun h s hs => let ⟨k, c, hk, e⟩ := (mem_initial net s).1 hs; e ▸ h k c hk⟩

theorem mem_connOf (links : List (PinRef × PinRef)) (k : Nat) (e : PinRef × PinRef) :
    e ∈ connOf links k ↔ (e ∈ links ∧ e.1.1 = k) ∨ ((e.2, e.1) ∈ links ∧ e.2.1 ≠ k ∧ e.1.1 = k) := by
  unfold connOf
  rw [List.mem_filterMap]
  constructor
  · rintro ⟨l, hl, h⟩
    by_cases h1 : l.1.1 = k
    · rw [if_pos (beq_iff_eq.2 h1)] at h
      cases h
      exact .inl ⟨hl, h1⟩
    · rw [if_neg (mt beq_iff_eq.1 h1)] at h
      by_cases h2 : l.2.1 = k
      · rw [if_pos (beq_iff_eq.2 h2)] at h
        cases h
        exact .inr ⟨hl, h1, h2⟩
      · rw [if_neg (mt beq_iff_eq.1 h2)] at h
        cases h
  · rintro (⟨hl, h1⟩ | ⟨hl, h1, h2⟩)
    · exact ⟨e, hl, if_pos (beq_iff_eq.2 h1)⟩
    · exact ⟨(e.2, e.1), hl, (if_neg (mt beq_iff_eq.1 h1)).trans (if_pos (beq_iff_eq.2 h2))⟩

open Solve

theorem connOf_keys_sublist (links : List (PinRef × PinRef)) (k : Nat) :
    ((connOf links k).map (·.1)).Sublist (links.flatMap fun l => [l.1, l.2]) := by
  induction links with
  | nil => exact .slnil
  | cons l ls ih =>
    unfold connOf at ih ⊢
    rw [List.filterMap_cons, List.flatMap_cons]
    by_cases h1 : l.1.1 = k
    · rw [if_pos (beq_iff_eq.2 h1)]
      exact (ih.cons _).cons_cons _
    · rw [if_neg (mt beq_iff_eq.1 h1)]
      by_cases h2 : l.2.1 = k
      · rw [if_pos (beq_iff_eq.2 h2)]
        exact (ih.cons_cons _).cons _
      · rw [if_neg (mt beq_iff_eq.1 h2)]
        exact (ih.cons _).cons _

theorem membersOf_mkSt (net : NetD F) (k : Nat) (c : CompD F) : St.membersOf (net.mkSt k c) = [k] := by
  simp [St.membersOf, mkSt]

theorem mem_pins_mkSt (net : NetD F) (k : Nat) (c : CompD F) (p : PinRef) :
    p ∈ (net.mkSt k c).pins ↔ p.1 = k ∧ p.2 ∈ c.pins := by
  simp only [mkSt, List.mem_map]
  constructor
  · rintro ⟨n, hn, rfl⟩; exact ⟨rfl, hn⟩
  · rintro ⟨h1, h2⟩; exact ⟨p.2, h2, by rw [← h1]⟩

theorem mem_initial_pins (net : NetD F) (p : PinRef) :
    (∃ s0 ∈ net.initial, p ∈ s0.pins) ↔ ∃ c, net.comps[p.1]? = some c ∧ p.2 ∈ c.pins := by
  constructor
  · rintro ⟨s0, hs, hp⟩
    obtain ⟨k, c, hk, rfl⟩ := (mem_initial net s0).1 hs
    obtain ⟨h1, h2⟩ := (mem_pins_mkSt net k c p).1 hp
    exact ⟨c, by rw [h1]; exact hk, h2⟩
  · rintro ⟨c, hc, hp⟩
    exact ⟨net.mkSt p.1 c, (mem_initial net _).2 ⟨p.1, c, hc, rfl⟩, (mem_pins_mkSt net p.1 c p).2 ⟨rfl, hp⟩⟩

theorem WF.mem_conn_mkSt {net : NetD F} (wf : net.WF) (k : Nat) (c : CompD F) (e : PinRef × PinRef) :
    e ∈ (net.mkSt k c).conn ↔ net.Lnk e.1 e.2 ∧ e.1.1 = k := by
  refine (mem_connOf net.links k e).trans ⟨?_, ?_⟩
  · rintro (⟨h, hk⟩ | ⟨h, _, hk⟩)
    exacts [⟨.inl h, hk⟩, ⟨.inr h, hk⟩]
  · rintro ⟨h | h, hk⟩
    exacts [.inl ⟨h, hk⟩, .inr ⟨h, hk ▸ wf.noSelf _ h, hk⟩]

theorem initial_owner (net : NetD F) (s0 : St F) (hs0 : s0 ∈ net.initial) : ∀ p ∈ s0.pins, p.1 = s0.id := by
  obtain ⟨k, c, _, rfl⟩ := (mem_initial net s0).1 hs0
  exact fun p hp => ((mem_pins_mkSt net k c p).1 hp).1

theorem _root_.lookupL_map_key {α β γ : Type} [BEq α] [LawfulBEq α] [BEq γ] [LawfulBEq γ] (f : α → γ)
    (hf : Function.Injective f) (l : List (α × β)) (x : α) :
    lookupL (l.map fun kv => (f kv.1, kv.2)) (f x) = lookupL l x := by
  induction l with
  | nil => rfl
  | cons a t ih =>
    simp only [lookupL, List.map_cons, List.find?] at ih ⊢
    by_cases h : a.1 = x
    · rw [beq_iff_eq.2 h, beq_iff_eq.2 (congrArg f h)]; rfl
    · rw [beq_eq_false_iff_ne.2 h, beq_eq_false_iff_ne.2 fun e => h (hf e)]; exact ih

theorem lookupL_idx_mkSt (net : NetD F) (k : Nat) (c : CompD F) (x : String) :
    lookupL (net.mkSt k c).idx (k, x) = lookupL c.idx x :=
  lookupL_map_key (fun n : String => ((k, n) : PinRef)) (fun _ _ e => (Prod.mk.inj e).2) c.idx x

theorem book_mkSt (net : NetD F) (wf : net.WF) (k : Nat) (c : CompD F) (hk : net.comps[k]? = some c) :
    Book net.Lnk net.comps.length (net.mkSt k c) := by
  -- an end of a link owned by `k` is a pin of this structure
  have endpin : ∀ p q, net.Lnk p q → p.1 = k → p ∈ (net.mkSt k c).pins := fun p q hL hpk => by
    obtain ⟨c', hc', hp2⟩ := wf.lnk_pin hL
    obtain rfl : c = c' := Option.some.inj (hk.symm.trans (hpk ▸ hc'))
    exact (mem_pins_mkSt net k c p).2 ⟨hpk, hp2⟩
  refine ⟨fun p hp => ?_, (connOf_keys_sublist net.links k).nodup wf.endsNodup, fun e he => ?_, fun e he => ?_,
    fun p hp q hL => ?_, fun q r hq hnq hL => ?_, fun h => absurd rfl h, fun _ => (List.getElem?_eq_some_iff.1 hk).1⟩
  · rw [membersOf_mkSt, List.mem_singleton]
    exact ((mem_pins_mkSt net k c p).1 hp).1
  · obtain ⟨hL, hek⟩ := (wf.mem_conn_mkSt k c e).1 he
    exact endpin _ _ hL hek
  · obtain ⟨hL, hek⟩ := (wf.mem_conn_mkSt k c e).1 he
    rw [membersOf_mkSt, List.mem_singleton]
    exact ⟨fun h => wf.lnk_ne hL (hek.trans h.symm), wf.lnk_lt hL.symm⟩
  · exact (wf.mem_conn_mkSt k c (p, q)).2 ⟨hL, ((mem_pins_mkSt net k c p).1 hp).1⟩
  · rw [membersOf_mkSt, List.mem_singleton] at hq
    exact (hnq (endpin q r hL hq)).elim

variable [Field F] [DecidableEq F]

/-- network equations: component equations, link equations, no input at unexposed free pins -/
structure Sol (net : NetD F) (a b : PinRef → F) : Prop where
  comp : ∀ s ∈ net.initial, Eqn s.pins s.sem a b
  link : ∀ l ∈ net.links, a l.1 = b l.2 ∧ a l.2 = b l.1
  free : ∀ s ∈ net.initial, ∀ p ∈ s.pins, (∀ q, ¬ net.Lnk p q) → p ∉ net.exposed.map (·.2) → a p = 0

/-- `T` (a coefficient per ordered pair of exposed pins) is the solution operator of the network -/
def SolvedBy (net : NetD F) (T : PinRef → PinRef → F) : Prop :=
  (∀ a b, net.Sol a b → ∀ e ∈ net.exposed, b e.2 = (net.exposed.map fun y => T e.2 y.2 * a y.2).sum) ∧
  (∀ v : PinRef → F, ∃ a b, net.Sol a b ∧ ∀ e ∈ net.exposed, a e.2 = v e.2)

/-- exposure hypotheses: exposed pins are distinct, exist, and are free (not an end of a link) -/
structure ExposureOK (net : NetD F) : Prop where
  nodup : (net.exposed.map (·.2)).Nodup
  free : ∀ e ∈ net.exposed, (∃ s0 ∈ net.initial, e.2 ∈ s0.pins) ∧ ∀ q, ¬ net.Lnk e.2 q

theorem Sol.lnk {net : NetD F} {a b : PinRef → F} (h : net.Sol a b) {p q : PinRef} (hL : net.Lnk p q) :
    a p = b q ∧ a q = b p :=
  hL.elim (h.link (p, q)) fun hl => (h.link (q, p) hl).symm

theorem mkSt_sem (net : NetD F) (k : Nat) (c : CompD F) (x y : String) :
    (net.mkSt k c).sem (k, x) (k, y) = c.sem x y := by
  unfold St.sem CompD.sem
  rw [lookupL_idx_mkSt, lookupL_idx_mkSt]
  rfl

theorem good_mkSt (net : NetD F) (wf : net.WF) (k : Nat) (c : CompD F) (hk : net.comps[k]? = some c) :
    Good net.Sol (net.mkSt k c) :=
  ⟨(wf.pinsNodup c (List.mem_of_getElem? hk)).map fun _ _ e => (Prod.mk.inj e).2,
    fun _ _ hw => hw.comp _ ((mem_initial net _).2 ⟨k, c, hk, rfl⟩),
    fun _ _ hw e he => hw.lnk ((wf.mem_conn_mkSt k c e).1 he).1⟩

theorem fullInv_initial (net : NetD F) (wf : net.WF) :
    FullInv net.Sol net.Lnk net.comps.length (List.range net.comps.length) net.initial net.comps.length := by
  have own := initial_owner net
  have mem : ∀ s ∈ net.initial, St.membersOf s = [s.id] := forall_initial.2 fun k c _ => membersOf_mkSt net k c
  refine ⟨⟨forall_initial.2 (good_mkSt net wf), fun s hs t ht hne p hp hq => hne ((own s hs p hp).symm.trans (own t ht p hq)),
      forall_initial.2 fun k c hk => (List.getElem?_eq_some_iff.1 hk).1⟩,
    forall_initial.2 (book_mkSt net wf), fun s hs t ht hne k hks hkt => ?_, le_refl _, fun k hk => ?_,
    fun s hs t ht he => ?_⟩
  · rw [mem s hs, List.mem_singleton] at hks
    rw [mem t ht, List.mem_singleton] at hkt
    exact hne (hks.symm.trans hkt)
  · have hlt : k < net.comps.length := List.mem_range.1 hk
    exact ⟨net.mkSt k net.comps[k], (mem_initial net _).2 ⟨k, _, List.getElem?_eq_getElem hlt, rfl⟩,
      by rw [membersOf_mkSt]; exact List.mem_singleton_self k⟩
  · obtain ⟨k1, c1, h1, rfl⟩ := (mem_initial net s).1 hs
    obtain ⟨k2, c2, h2, rfl⟩ := (mem_initial net t).1 ht
    obtain rfl : k1 = k2 := he
    rw [Option.some.inj (h1.symm.trans h2)]

/-- the top-level executable solve for an arbitrary schedule -/
def solveWith (sched : List (St F) → Option (Nat × Nat)) (net : NetD F) : Except Err (St F) :=
  loopWith sched net.comps.length net.initial net.comps.length

/-- **C01, soundness half, any schedule**: every solution of the network equations satisfies the equation of the
    structure `solve` ends with, and that structure has no linked pin left. -/
theorem solveWith_sound (net : NetD F) (wf : net.WF) (sched) (total : St F)
    (h : net.solveWith sched = .ok total) :
    (∀ a b, net.Sol a b → Eqn total.pins total.sem a b) ∧ (∀ p ∈ total.pins, ∀ q, ¬ net.Lnk p q) := by
  obtain ⟨g, hno⟩ := loopWith_full net.Sol net.Lnk net.comps.length (fun p q h => h.symm)
    (List.range net.comps.length) (fun p q hL => List.mem_range.2 (wf.lnk_lt hL.symm)) sched _ _ _ total
    (fullInv_initial net wf) h
  exact ⟨g.eqn, hno⟩

theorem solveWith_nodup (net : NetD F) (wf : net.WF) (sched) (total : St F)
    (h : net.solveWith sched = .ok total) : total.pins.Nodup :=
  (loopWith_sound net.Sol sched _ _ _ total (fullInv_initial net wf).linv h).nodup

omit [DecidableEq F] in
theorem sum_restrict (l E : List PinRef) (f : PinRef → F) (hl : l.Nodup) (hE : E.Nodup) (hsub : ∀ x ∈ E, x ∈ l)
    (hz : ∀ x ∈ l, x ∉ E → f x = 0) : (l.map f).sum = (E.map f).sum := by
  have hp := perm_filter_split l E hl hE hsub
  rw [(hp.map f).sum_eq, List.map_append, List.sum_append, List.sum_eq_zero, zero_add]
  intro y hy
  obtain ⟨x, hx, rfl⟩ := List.mem_map.1 hy
  have := List.mem_filter.1 hx
  exact hz x this.1 (by simpa using this.2)

/-- **read-out**: on the exposed pins the outputs of every solution are the exposed-pin block of `total` applied to the
    exposed inputs (unexposed free pins receive no wave). -/
theorem solveWith_readout (net : NetD F) (wf : net.WF) (sched) (total : St F)
    (h : net.solveWith sched = .ok total)
    (hEn : (net.exposed.map (·.2)).Nodup) (hEin : ∀ e ∈ net.exposed, e.2 ∈ total.pins)
    (a b : PinRef → F) (hs : net.Sol a b) :
    ∀ e ∈ net.exposed, b e.2 = (net.exposed.map fun y => total.sem e.2 y.2 * a y.2).sum := by
  obtain ⟨heq, hno⟩ := solveWith_sound net wf sched total h
  have horig : ∀ p ∈ total.pins, ∃ s ∈ net.initial, p ∈ s.pins :=
    loopWith_pins net.Sol (fun p => ∃ s ∈ net.initial, p ∈ s.pins) sched _ _ _ total (fullInv_initial net wf).linv
      (fun s hs p hp => ⟨s, hs, hp⟩) h
  intro e he
  rw [heq a b hs e.2 (hEin e he), rowSum, sum_restrict total.pins (net.exposed.map (·.2)) (fun q => total.sem e.2 q * a q)
    (solveWith_nodup net wf sched total h) hEn (List.forall_mem_map.2 hEin) fun x hx hnx => ?_, List.map_map]
  · rfl
  · obtain ⟨s, hsi, hxs⟩ := horig x hx
    rw [hs.free s hsi x hxs (hno x hx) hnx, mul_zero]

end NetD
