import LekkerVerif.Core.GaussJordanSpec
import LekkerVerif.Core.Bridge

/-! Completeness of the certified inverse: if `A.toMatrix n n` is invertible then `Mat.inv? A` returns a result
(`Mat.inv?_complete'`; `Mat.inv?_complete` is the same with the size hypothesis the property names).  With soundness
(`Mat.inv?_spec`) this makes `inv?` a decision procedure for invertibility (`Mat.inv?_isSome_iff`), which is the form the rest
of the development uses.

The working array stays row equivalent to `[A | 1]` (`RowEquiv`: `W = E * W0`, `E` invertible): a row swap permutes the
rows of `E`, scaling and elimination replace one row by a combination of rows in which it takes part (`RowEquiv.rowOp`).
`Inv` adds that the first `col` columns are those of `1`, `ElimInv` is the invariant of the inner elimination loop.  If the
pivot search fails, the left block `E * A` is singular (`not_isUnit_of_no_pivot`), so `A` is.  At the end the array is
`[E * A | E] = [1 | E]`: its right block is a left inverse of `A`, and both checks of `inv?` succeed (`mul_eq_one`). -/

section ArrayLemmas
variable {α : Type} [Inhabited α]

theorem getElem!_set!_of_lt (M : Array α) (i k : Nat) (v : α) (hi : i < M.size) :
    (M.set! i v)[k]! = if k = i then v else M[k]! := by
  rw [Array.set!_eq_setIfInBounds, getElem!_def, Array.getElem?_setIfInBounds, getElem!_def, if_pos hi]
  by_cases h : k = i
  · rw [if_pos h, if_pos h.symm]
  · rw [if_neg h, if_neg (Ne.symm h)]

theorem getElem!_map_of_lt {β : Type} [Inhabited β] (a : Array α) (f : α → β) (j : Nat)
    (hj : j < a.size) : (a.map f)[j]! = f a[j]! := by
  simp [hj]

theorem getElem!_mapIdx_of_lt {β : Type} [Inhabited β] (a : Array α) (f : Nat → α → β) (j : Nat)
    (hj : j < a.size) : (a.mapIdx f)[j]! = f j a[j]! := by
  simp [hj]

theorem getElem!_ofFn_of_lt (n : Nat) (f : Fin n → α) (j : Nat) (hj : j < n) :
    (Array.ofFn f)[j]! = f ⟨j, hj⟩ := by
  rw [getElem!_pos _ _ (by rwa [Array.size_ofFn]), Array.getElem_ofFn]
end ArrayLemmas

open Matrix
namespace Mat

section RowEquiv
variable {F : Type} [Field F] {n m : Nat}

def RowEquiv (W0 W : Matrix (Fin n) (Fin m) F) : Prop :=
  ∃ E : Matrix (Fin n) (Fin n) F, IsUnit E ∧ W = E * W0

theorem RowEquiv.refl (W0 : Matrix (Fin n) (Fin m) F) : RowEquiv W0 W0 :=
  ⟨1, isUnit_one, (Matrix.one_mul _).symm⟩

theorem RowEquiv.perm {W0 W W' : Matrix (Fin n) (Fin m) F} (h : RowEquiv W0 W)
    (σ : Equiv.Perm (Fin n)) (h' : ∀ i j, W' i j = W (σ i) j) : RowEquiv W0 W' := by
  obtain ⟨E, hE, rfl⟩ := h
  exact ⟨E.submatrix σ (Equiv.refl _), (Matrix.isUnit_submatrix_equiv σ (Equiv.refl _)).2 hE,
    Matrix.ext fun i j => (h' i j).trans rfl⟩

/-- replacing row `r` by a combination `c ᵥ* W` of the rows in which row `r` itself takes part (`c r ≠ 0`): the same
operation on the multiplier, whose determinant is thereby multiplied by `c r` (`Matrix.det_updateRow_sum`) -/
theorem RowEquiv.rowOp {W0 W W' : Matrix (Fin n) (Fin m) F} (h : RowEquiv W0 W) {r : Nat} (hr : r < n)
    (c : Fin n → F) (hc : c ⟨r, hr⟩ ≠ 0)
    (h' : ∀ i j, W' i j = if i.1 = r then (c ᵥ* W) j else W i j) : RowEquiv W0 W' := by
  obtain ⟨E, hE, rfl⟩ := h
  refine ⟨E.updateRow ⟨r, hr⟩ (c ᵥ* E), ?_, ?_⟩
  · simp only [Matrix.isUnit_iff_isUnit_det, isUnit_iff_ne_zero, Matrix.vecMul_eq_sum, Matrix.det_updateRow_sum] at hE ⊢
    exact mul_ne_zero hc hE
  · rw [Matrix.updateRow_mul, Matrix.vecMul_vecMul]
    ext i j
    rw [h', Matrix.updateRow_apply]
    simp only [Fin.ext_iff]

theorem not_isUnit_of_no_pivot (L : Matrix (Fin n) (Fin n) F) (c : Fin n)
    (hid : ∀ i j : Fin n, j < c → L i j = (1 : Matrix (Fin n) (Fin n) F) i j)
    (hz : ∀ i : Fin n, c ≤ i → L i c = 0) : ¬ IsUnit L := by
  intro hU
  have hinj := Matrix.mulVec_injective_iff_isUnit.2 hU
  -- column `c` above the diagonal, as a vector, has the same image as the unit vector `e_c`
  let u : Fin n → F := fun k => if k < c then L k c else 0
  have key : L *ᵥ u = L *ᵥ (Pi.single c 1) := by
    ext i
    rw [Matrix.mulVec_single_one]
    simp only [Matrix.mulVec, dotProduct, Matrix.col_apply]
    have : ∀ k, L i k * u k = if i = k then u k else 0 := by
      intro k
      by_cases hk : k < c
      · rw [hid i k hk, Matrix.one_apply]; split <;> simp
      · simp [u, hk]
    simp only [this, Finset.sum_ite_eq, Finset.mem_univ, if_true]
    by_cases hi : i < c
    · simp [u, hi]
    · simp only [u, hi, if_false]
      exact (hz i (not_lt.mp hi)).symm
  have := congrFun (hinj key) c
  simp [u] at this

def leftBlock (h : n ≤ m) (W : Matrix (Fin n) (Fin m) F) : Matrix (Fin n) (Fin n) F :=
  fun i j => W i (Fin.castLE h j)

theorem leftBlock_mul (h : n ≤ m) (E : Matrix (Fin n) (Fin n) F) (W : Matrix (Fin n) (Fin m) F) :
    leftBlock h (E * W) = E * leftBlock h W :=
  rfl

def rightBlock (W : Matrix (Fin n) (Fin (2 * n)) F) : Matrix (Fin n) (Fin n) F :=
  fun i j => W i ⟨n + j.1, by rw [two_mul]; exact Nat.add_lt_add_left j.2 n⟩

theorem rightBlock_mul (E : Matrix (Fin n) (Fin n) F) (W : Matrix (Fin n) (Fin (2 * n)) F) :
    rightBlock (E * W) = E * rightBlock W :=
  rfl

end RowEquiv

section Entries
variable {F : Type} {n m : Nat} {M : Array (Array F)}

def WF (n m : Nat) (M : Array (Array F)) : Prop := M.size = n ∧ ∀ i, i < n → (M[i]!).size = m

theorem WF.set! (h : WF n m M) {r : Nat} (hr : r < n) {v : Array F} (hv : v.size = m) : WF n m (M.set! r v) := by
  refine ⟨by simp [h.1], fun i hi => ?_⟩
  rw [getElem!_set!_of_lt _ _ _ _ (h.1 ▸ hr)]
  split
  · exact hv
  · exact h.2 _ hi

theorem WF_swapRows {a b : Nat} (h : WF n m M) (ha : a < n) (hb : b < n) :
    WF n m (swapRows a b M) :=
  (h.set! ha (h.2 _ hb)).set! hb (h.2 _ ha)

variable [Scalar F]

/-- entry `(i, j)` of the working array (default value outside) -/
def ent (M : Array (Array F)) (i j : Nat) : F := (M[i]!)[j]!

theorem ent_set! (h : WF n m M) {r : Nat} (hr : r < n) (v : Array F) (i j : Nat) :
    ent (M.set! r v) i j = if i = r then v[j]! else ent M i j := by
  unfold ent
  rw [getElem!_set!_of_lt _ _ _ _ (h.1 ▸ hr)]
  split <;> rfl

theorem ent_swapRows {a b : Nat} (h : WF n m M) (ha : a < n) (hb : b < n) (i j : Nat) :
    ent (swapRows a b M) i j = ent M (Equiv.swap a b i) j := by
  unfold swapRows
  rw [ent_set! (h.set! ha (h.2 _ hb)) hb, ent_set! h ha]
  by_cases hib : i = b
  · rw [if_pos hib, hib, Equiv.swap_apply_right]; rfl
  by_cases hia : i = a
  · rw [if_neg hib, if_pos hia, hia, Equiv.swap_apply_left]; rfl
  · rw [if_neg hib, if_neg hia, Equiv.swap_apply_of_ne_of_ne hia hib]

theorem WF_scaleRow {a : Nat} (h : WF n m M) (ha : a < n) : WF n m (scaleRow a M) :=
  h.set! ha ((Array.size_map ..).trans (h.2 _ ha))

theorem ent_scaleRow {a : Nat} (h : WF n m M) (ha : a < n) (i j : Nat) (hj : j < m) :
    ent (scaleRow a M) i j = if i = a then ent M a j * (ent M a a)⁻¹ else ent M i j := by
  unfold scaleRow
  rw [ent_set! h ha]
  split
  · exact getElem!_map_of_lt _ _ _ (by rw [h.2 _ ha]; exact hj)
  · rfl

theorem elimStep_self (col : Nat) : elimStep col M col = M := by
  unfold elimStep
  simp

theorem WF_elimStep {col r : Nat} (h : WF n m M) (hr : r < n) : WF n m (elimStep col M r) := by
  unfold elimStep
  split_ifs
  exacts [h.set! hr ((Array.size_mapIdx ..).trans (h.2 _ hr)), h, h]

end Entries

section Invariant
variable {F : Type} [Field F] [DecidableEq F] {n m : Nat} {M : Array (Array F)}

def rowsMat (n m : Nat) (M : Array (Array F)) : Matrix (Fin n) (Fin m) F :=
  fun i j => ent M i.1 j.1

/-- clearing entry `(r, col)`; when that entry is `0` the code leaves the array alone, and so does the formula -/
theorem ent_elimStep {col r : Nat} (h : WF n m M) (hr : r < n) (hrc : r ≠ col) (i j : Nat) (hj : j < m) :
    ent (elimStep col M r) i j =
      if i = r then ent M r j - ent M r col * ent M col j else ent M i j := by
  unfold elimStep
  rw [if_pos (bne_iff_ne.2 hrc)]
  split
  · rw [ent_set! h hr]
    split
    · exact getElem!_mapIdx_of_lt _ _ _ (by rw [h.2 r hr]; exact hj)
    · rfl
  · rename_i hf
    have hf : ent M r col = 0 := not_not.1 (mt bne_iff_ne.2 hf)
    split
    · subst i; rw [hf, zero_mul, sub_zero]
    · rfl

/-- the pivot search keeps the first row with a non-zero entry: it is `find?` -/
theorem pivFold_eq (n col : Nat) (M : Array (Array F)) : ∀ (l : List Nat), (∀ r ∈ l, r ≠ n) → ∀ p0 : Nat,
    l.foldl (pivStep n col M) p0 = if p0 = n then (l.find? fun r => !(ent M r col == 0)).getD n else p0
  | [], _, p0 => by split; exacts [‹_›, rfl]
  | r :: l, hl, p0 => by
    rw [List.foldl_cons, pivFold_eq n col M l (fun x hx => hl x (List.mem_cons_of_mem _ hx)), List.find?_cons]
    unfold pivStep ent
    by_cases hp : p0 = n
    · cases !((M[r]!)[col]! == (0 : F)) <;>
        simp only [hp, BEq.rfl, Bool.and_false, Bool.and_self, Bool.false_eq_true, ↓reduceIte, hl r List.mem_cons_self,
          Option.getD_some]
    · simp only [Bool.and_eq_true, beq_iff_eq, hp, false_and, ↓reduceIte]

theorem pivSearch_spec (n col : Nat) (M : Array (Array F)) :
    (pivSearch n col M = n ∧ ∀ r, col ≤ r → r < n → ent M r col = 0) ∨
    (col ≤ pivSearch n col M ∧ pivSearch n col M < n ∧ ent M (pivSearch n col M) col ≠ 0) := by
  have hmem : ∀ r, r ∈ List.range' col (n - col) ↔ col ≤ r ∧ r < n := fun r =>
    List.mem_range'_1.trans (and_congr_right fun h => by rw [add_tsub_eq_max, lt_max_iff, or_iff_right h.not_gt])
  unfold pivSearch
  rw [pivFold_eq n col M _ (fun r hr => ((hmem r).1 hr).2.ne), if_pos rfl]
  cases h : (List.range' col (n - col)).find? fun r => !(ent M r col == 0) with
  | none => exact .inl ⟨rfl, fun r h1 h2 => not_not.1 (mt bne_iff_ne.2 (List.find?_eq_none.1 h r ((hmem r).2 ⟨h1, h2⟩)))⟩
  | some r =>
    have := (hmem r).1 (List.mem_of_find?_eq_some h)
    exact .inr ⟨this.1, this.2, bne_iff_ne.1 (List.find?_some h :)⟩

/-- invariant of the outer loop, before processing column `col` -/
structure Inv (n m : Nat) (W0 : Matrix (Fin n) (Fin m) F) (col : Nat) (M : Array (Array F)) :
    Prop where
  wf : WF n m M
  re : RowEquiv W0 (rowsMat n m M)
  cid : ∀ i j, i < n → j < col → ent M i j = if i = j then 1 else 0

variable {W0 : Matrix (Fin n) (Fin m) F} {col : Nat}

theorem Inv.cid_zero (h : Inv n m W0 col M) {i j : Nat} (hi : i < n) (hj : j < col) (hij : col ≤ i) :
    ent M i j = 0 := by
  rw [h.cid i j hi hj, if_neg (hj.trans_le hij).ne']

theorem Inv.swap {p : Nat} (h : Inv n m W0 col M) (hcol : col < n) (hp1 : col ≤ p) (hp2 : p < n) :
    Inv n m W0 col (swapRows col p M) := by
  refine ⟨WF_swapRows h.wf hcol hp2, ?_, ?_⟩
  · refine h.re.perm (Equiv.swap ⟨col, hcol⟩ ⟨p, hp2⟩) fun i j => ?_
    show _ = ent M (Equiv.swap _ _ i).1 j.1
    rw [← Fin.val_injective.swap_apply]
    exact ent_swapRows h.wf hcol hp2 _ _
  · -- the two rows lie at or below `col`, so both are zero left of it
    intro i j hi hj
    rw [ent_swapRows h.wf hcol hp2]
    by_cases h1 : i = col
    · rw [h1, Equiv.swap_apply_left, h.cid_zero hp2 hj hp1, if_neg hj.ne']
    by_cases h2 : i = p
    · rw [h2, Equiv.swap_apply_right, h.cid_zero hcol hj le_rfl, if_neg (hj.trans_le hp1).ne']
    · rw [Equiv.swap_apply_of_ne_of_ne h1 h2]; exact h.cid i j hi hj

/-- invariant of the elimination loop, before processing row `k` -/
structure ElimInv (n m : Nat) (W0 : Matrix (Fin n) (Fin m) F) (col k : Nat)
    (M : Array (Array F)) : Prop extends Inv n m W0 col M where
  piv1 : ent M col col = 1
  cleared : ∀ i, i < k → i ≠ col → ent M i col = 0

theorem Inv.scale (h : Inv n m W0 col M) (hcol : col < n) (hnm : n ≤ m)
    (hp : ent M col col ≠ 0) :
    ElimInv n m W0 col 0 (scaleRow col M) := by
  refine ⟨⟨WF_scaleRow h.wf hcol, ?_, ?_⟩, ?_, fun i hi => absurd hi (Nat.not_lt_zero _)⟩
  · refine h.re.rowOp hcol (Pi.single ⟨col, hcol⟩ (ent M col col)⁻¹) (by rw [Pi.single_eq_same]; exact inv_ne_zero hp)
      fun i j => ?_
    rw [Matrix.single_vecMul]
    exact (ent_scaleRow h.wf hcol _ _ j.2).trans (by rw [mul_comm]; rfl)
  · intro i j hi hj
    rw [ent_scaleRow h.wf hcol _ _ ((hj.trans hcol).trans_le hnm)]
    by_cases h1 : i = col
    · rw [if_pos h1, h.cid_zero hcol hj le_rfl, h1, if_neg hj.ne']
      exact zero_mul _
    · rw [if_neg h1]; exact h.cid i j hi hj
  · rw [ent_scaleRow h.wf hcol _ _ (hcol.trans_le hnm), if_pos rfl]
    exact mul_inv_cancel₀ hp

theorem ElimInv.step {r : Nat} (h : ElimInv n m W0 col r M) (hcol : col < n) (hnm : n ≤ m)
    (hr : r < n) : ElimInv n m W0 col (r + 1) (elimStep col M r) := by
  by_cases hrc : r = col
  · subst hrc
    rw [elimStep_self]
    exact ⟨h.toInv, h.piv1, fun i hi hic => h.cleared i (Nat.lt_of_le_of_ne (Nat.le_of_lt_succ hi) hic) hic⟩
  have hE := fun i j hj => ent_elimStep (i := i) (j := j) h.wf hr hrc hj
  refine ⟨⟨WF_elimStep h.wf hr, ?_, ?_⟩, ?_, ?_⟩
  · -- row `r` becomes the combination `e_r - M[r,col] • e_col` of the rows, whose coefficient at `r` is 1, so `rowOp` applies;
    -- the ascription spares the elaborator a failed search for the scalar action on a function type not yet known
    refine h.re.rowOp hr (Pi.single ⟨r, hr⟩ 1 - ent M r col • (Pi.single ⟨col, hcol⟩ 1 : Fin n → F))
      ?_ fun i j => ?_
    · simp [Fin.ext_iff, hrc]
    · simp only [Matrix.sub_vecMul, Matrix.smul_vecMul, Matrix.single_one_vecMul]
      exact hE _ _ j.2
  · -- the pivot row is zero left of the pivot, so nothing changes there
    intro i j hi hj
    rw [hE _ _ ((hj.trans hcol).trans_le hnm)]
    by_cases hir : i = r
    · rw [if_pos hir, h.cid_zero hcol hj le_rfl, mul_zero, sub_zero, ← hir]
      exact h.cid i j hi hj
    · rw [if_neg hir]; exact h.cid i j hi hj
  · rw [hE _ _ (hcol.trans_le hnm), if_neg (Ne.symm hrc)]
    exact h.piv1
  · intro i hi hic
    rw [hE _ _ (hcol.trans_le hnm)]
    by_cases hir : i = r
    · rw [if_pos hir, h.piv1, mul_one, sub_self]
    · rw [if_neg hir]; exact h.cleared i (Nat.lt_of_le_of_ne (Nat.le_of_lt_succ hi) hir) hic

theorem ElimInv.fold (h : ElimInv n m W0 col 0 M) (hcol : col < n) (hnm : n ≤ m) :
    ∀ k, k ≤ n → ElimInv n m W0 col k ((List.range' 0 k).foldl (elimStep col) M)
  | 0, _ => h
  | k + 1, hk => by
    rw [List.range'_1_concat, List.foldl_append, Nat.zero_add]
    exact (h.fold hcol hnm k (Nat.le_of_succ_le hk)).step hcol hnm hk

theorem ElimInv.finish (h : ElimInv n m W0 col n M) (hcol : col < n) :
    Inv n m W0 (col + 1) M := by
  refine ⟨h.wf, h.re, fun i j hi hj => ?_⟩
  by_cases hjc : j = col
  · subst hjc
    by_cases hij : i = j
    · rw [if_pos hij, hij]; exact h.piv1
    · rw [if_neg hij]; exact h.cleared i hi hij
  · exact h.cid i j hi (Nat.lt_of_le_of_ne (Nat.le_of_lt_succ hj) hjc)

theorem Inv.leftBlock_apply (h : Inv n m W0 col M) (hnm : n ≤ m) (i j : Fin n) (hj : j.1 < col) :
    leftBlock hnm (rowsMat n m M) i j = (1 : Matrix (Fin n) (Fin n) F) i j := by
  show ent M i.1 j.1 = _
  rw [h.cid _ _ i.2 hj, Matrix.one_apply]
  simp only [Fin.ext_iff]

/-- the left block `E * leftBlock W0` is invertible, so the pivot search succeeds -/
theorem gjCol_inv (h : Inv n m W0 col M) (hcol : col < n) (hnm : n ≤ m) (hU : IsUnit (leftBlock hnm W0)) :
    pivSearch n col M ≠ n ∧ Inv n m W0 (col + 1) (gjCol n col M) := by
  rcases pivSearch_spec n col M with ⟨_, hz⟩ | ⟨hp1, hp2, hp3⟩
  · obtain ⟨E, hE, hW⟩ := h.re
    refine absurd ?_ (not_isUnit_of_no_pivot (leftBlock hnm (rowsMat n m M)) ⟨col, hcol⟩
      (fun i j hj => h.leftBlock_apply hnm i j hj) fun i hi => hz i.1 hi i.2)
    rw [hW, leftBlock_mul]
    exact hE.mul hU
  · refine ⟨hp2.ne, ?_⟩
    unfold gjCol
    generalize pivSearch n col M = p at hp1 hp2 hp3
    have hpivot : ent (swapRows col p M) col col = ent M p col := by
      rw [ent_swapRows h.wf hcol hp2, Equiv.swap_apply_left]
    exact (((h.swap hcol hp1 hp2).scale hcol hnm (by rwa [hpivot])).fold hcol hnm n le_rfl).finish hcol

theorem gjLoop_inv (hnm : n ≤ m) (hU : IsUnit (leftBlock hnm W0)) :
    ∀ (k col : Nat) (M : Array (Array F)), col + k = n → Inv n m W0 col M →
      ∃ M', exitLoop (fun col M => pivSearch n col M == n) (gjCol n) none some (List.range' col k) M = some M' ∧
        Inv n m W0 n M'
  | 0, col, M, hk, h => ⟨M, rfl, by subst hk; exact h⟩
  | k + 1, col, M, hk, h => by
    obtain ⟨h1, h2⟩ := gjCol_inv h (Nat.lt_of_lt_of_eq (Nat.lt_add_of_pos_right k.succ_pos) hk) hnm hU
    rw [List.range'_succ, exitLoop, if_neg (mt beq_iff_eq.1 h1)]
    exact gjLoop_inv hnm hU k (col + 1) _ ((Nat.succ_add_eq_add_succ col k).trans hk) h2

end Invariant

section Main
variable {F : Type} [Field F] [DecidableEq F]

theorem ent_gjInit (A : Mat F) (i j : Nat) (hi : i < A.r) (hj : j < 2 * A.r) :
    ent (gjInit A) i j =
      if j < A.r then A.get i j else (if j - A.r = i then 1 else 0) := by
  unfold ent gjInit
  rw [getElem!_ofFn_of_lt _ _ _ hi, getElem!_ofFn_of_lt _ _ _ hj]

theorem WF_gjInit (A : Mat F) : WF A.r (2 * A.r) (gjInit A) := by
  refine ⟨Array.size_ofFn, fun i hi => ?_⟩
  unfold gjInit
  rw [getElem!_ofFn_of_lt _ _ _ hi, Array.size_ofFn]

theorem leftBlock_gjInit (A : Mat F) (h : A.r ≤ 2 * A.r) :
    leftBlock h (rowsMat A.r (2 * A.r) (gjInit A)) = A.toMatrix A.r A.r := by
  ext i j
  show ent (gjInit A) i.1 j.1 = A.get i.1 j.1
  rw [ent_gjInit A _ _ i.2 (j.2.trans_le h), if_pos j.2]

theorem rightBlock_gjInit (A : Mat F) :
    rightBlock (rowsMat A.r (2 * A.r) (gjInit A)) = 1 := by
  ext i j
  show ent (gjInit A) i.1 (A.r + j.1) = _
  rw [ent_gjInit A _ _ i.2 (by rw [two_mul]; exact Nat.add_lt_add_left j.2 _), if_neg (Nat.le_add_right _ _).not_gt,
    Matrix.one_apply]
  simp only [Nat.add_sub_cancel_left, Fin.ext_iff]
  by_cases h : j.1 = i.1
  · rw [if_pos h, if_pos h.symm]
  · rw [if_neg h, if_neg (Ne.symm h)]

theorem Inv_gjInit (A : Mat F) :
    Inv A.r (2 * A.r) (rowsMat A.r (2 * A.r) (gjInit A)) 0 (gjInit A) :=
  ⟨WF_gjInit A, RowEquiv.refl _, fun _ _ _ hj => absurd hj (Nat.not_lt_zero _)⟩

theorem gaussJordan_of_isUnit (A : Mat F) (h : IsUnit (A.toMatrix A.r A.r)) :
    ∃ M, gaussJordan A = some M ∧ rightBlock (rowsMat A.r (2 * A.r) M) * A.toMatrix A.r A.r = 1 := by
  have hnm : A.r ≤ 2 * A.r := Nat.le_mul_of_pos_left _ Nat.two_pos
  obtain ⟨M, e, hI⟩ := gjLoop_inv (W0 := rowsMat A.r (2 * A.r) (gjInit A)) hnm
    (by rw [leftBlock_gjInit]; exact h) A.r 0 (gjInit A) (Nat.zero_add _) (Inv_gjInit A)
  have h1 : leftBlock hnm (rowsMat A.r (2 * A.r) M) = 1 := Matrix.ext fun i j => hI.leftBlock_apply hnm i j j.2
  obtain ⟨E, hE, hW⟩ := hI.re
  refine ⟨M, (gaussJordan_eq_spec A).trans e, ?_⟩
  rw [hW, rightBlock_mul, rightBlock_gjInit, Matrix.mul_one, ← leftBlock_gjInit A hnm, ← leftBlock_mul, ← hW, h1]

omit [Field F] [DecidableEq F] in
theorem ofFn_d_size (r c : Nat) (f : Nat → Nat → F) : (ofFn r c f).d.size = r * c := by
  simp [ofFn]

theorem mul_d_size (A B : Mat F) : (mul A B).d.size = A.r * B.c :=
  ofFn_d_size _ _ _

theorem one_d_size (n : Nat) : (one n : Mat F).d.size = n * n :=
  ofFn_d_size _ _ _

theorem ofFn_congr {r c : Nat} {f g : Nat → Nat → F}
    (h : (ofFn r c f).toMatrix r c = (ofFn r c g).toMatrix r c) : ofFn r c f = ofFn r c g := by
  rw [toMatrix_ofFn, toMatrix_ofFn] at h
  unfold ofFn
  congr 2
  funext k
  have hc : 0 < c := Nat.pos_of_lt_mul_left k.2
  exact congrFun (congrFun h ⟨k / c, (Nat.div_lt_iff_lt_mul hc).2 k.2⟩) ⟨k % c, Nat.mod_lt _ hc⟩

theorem beq_rfl (P : Mat F) : beq P P = true := by
  unfold beq
  simp

/-- a product that is `1` as a matrix is `one` as stored data -/
theorem mul_eq_one (A B : Mat F) (n : Nat) (hr : A.r = n) (hk : A.c = n) (hc : B.c = n)
    (h : A.toMatrix n n * B.toMatrix n n = 1) : mul A B = one n := by
  rw [← toMatrix_mul' A B n n n hr hk hc, ← toMatrix_one] at h
  unfold mul at h ⊢
  rw [hr, hc] at h ⊢
  exact ofFn_congr h

theorem inv?_complete' (A : Mat F) (n : Nat) (hr : A.r = n) (hc : A.c = n)
    (h : IsUnit (A.toMatrix n n)) : ∃ X, Mat.inv? A = some X := by
  subst hr
  obtain ⟨M, e, hR⟩ := gaussJordan_of_isUnit A h
  let X := ofFn A.r A.r fun i j => (M[i]!)[A.r + j]!
  replace hR : X.toMatrix A.r A.r * A.toMatrix A.r A.r = 1 := by rw [toMatrix_ofFn]; exact hR
  refine ⟨X, ?_⟩
  unfold inv?
  rw [e]
  show (if beq (mul A X) (one A.r) && beq (mul X A) (one A.r) then some X else none) = some X
  rw [mul_eq_one A X A.r rfl hc rfl (mul_eq_one_comm.1 hR), mul_eq_one X A A.r rfl rfl hc hR, beq_rfl]
  rfl

/-- the form the property asks for; the size of the data is not needed -/
theorem inv?_complete (A : Mat F) (n : Nat) (hr : A.r = n) (hc : A.c = n)
    (hd : A.d.size = n * n) (h : IsUnit (A.toMatrix n n)) : ∃ X, Mat.inv? A = some X :=
  inv?_complete' A n hr hc h

theorem inv?_isSome_iff (A : Mat F) (n : Nat) (hr : A.r = n) (hc : A.c = n) :
    (Mat.inv? A).isSome = true ↔ IsUnit (A.toMatrix n n) := by
  constructor
  · intro hs
    obtain ⟨X, hX⟩ := Option.isSome_iff_exists.1 hs
    obtain ⟨_, _, h1, h2⟩ := inv?_spec A X n hr hc hX
    exact ⟨⟨A.toMatrix n n, X.toMatrix n n, h1, h2⟩, rfl⟩
  · intro h
    obtain ⟨X, hX⟩ := inv?_complete' A n hr hc h
    rw [hX]; rfl

end Main
end Mat
