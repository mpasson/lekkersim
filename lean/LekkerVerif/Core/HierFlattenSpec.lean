import LekkerVerif.Core.HierSound

/-! `HNet.flatten` (Core/HierFlatten.lean) is the model of `Solver.flatten()`.  For every well-formed hierarchy (`HNet.WFTree`), of
any depth and branching, and every merge schedule at every level: the flattening is well formed again, its level being the
wiring of the whole hierarchy (`HNet.Struct`) carried from leaf paths to leaf positions (`HNet.Wired.map`; distinct paths have
distinct positions); its flattened network is the flattened network of the hierarchy with every leaf pin renamed from
(path, name) to (position of the leaf, name) (`HNet.flat_flatten`); so the two solves return the same pins and coefficients
(`HNet.flatten_preserves`), by the renaming (`ANet.map_solvedBy`) and because the solution operator of a network is unique
(`HNet.solveH_flat_operator`).  No sub-circuit is left, and flattening again changes nothing. -/

namespace HNet
variable {F : Type}

theorem posOf_of_getElem? (ls : List (List Nat × CompD F)) (hn : (ls.map (·.1)).Nodup) (i : Nat)
    (pc : List Nat × CompD F) (hi : ls[i]? = some pc) : posOf ls pc.1 = i := by
  have e : posOf ls pc.1 = (ls.map (·.1)).idxOf pc.1 := by rw [List.idxOf, List.findIdx_map]; rfl
  rw [e]
  exact List.idxOf_of_getElem? hn (by rw [List.getElem?_map, hi]; rfl)

theorem flatten_leaf (c : CompD F) : flatten (HNet.leaf c) = .leaf c := rfl

theorem flatten_node (cs : List (HNet F)) (links : List (PinRef × PinRef)) (exposed : List (String × PinRef)) :
    flatten (HNet.node cs links exposed) =
      .node ((leaves (.node cs links exposed)).map fun pc => .leaf pc.2)
        ((allLinks (.node cs links exposed)).map fun l =>
          (readdress (leaves (.node cs links exposed)) l.1, readdress (leaves (.node cs links exposed)) l.2))
        (exposed.map fun e => (e.1, readdress (leaves (.node cs links exposed)) (leafRef cs e.2))) := rfl

theorem IsLeafPin.pos {h : HNet F} (st : Struct h) {p : HPin} (hp : IsLeafPin h p) :
    ∃ (i : Nat) (pc : List Nat × CompD F), (leaves h)[i]? = some pc ∧ pc.1 = p.1 ∧ p.2 ∈ pc.2.pins ∧
      posOf (leaves h) p.1 = i := by
  obtain ⟨pc, hpc, h1, h2⟩ := hp
  obtain ⟨i, hi⟩ := List.getElem?_of_mem hpc
  exact ⟨i, pc, hi, h1, h2, by rw [← h1]; exact posOf_of_getElem? _ st.leafNodup i pc hi⟩

theorem IsLeafPin.path_eq {h : HNet F} (st : Struct h) {p q : HPin} (hp : IsLeafPin h p) (hq : IsLeafPin h q)
    (e : posOf (leaves h) p.1 = posOf (leaves h) q.1) : p.1 = q.1 := by
  obtain ⟨i, pc, hi, h1, _, hpos⟩ := hp.pos st
  obtain ⟨j, pc', hj, h1', _, hpos'⟩ := hq.pos st
  rw [hpos, hpos'] at e
  subst e
  obtain rfl : pc = pc' := Option.some.inj (hi.symm.trans hj)
  exact h1.symm.trans h1'

theorem WFTree.flatten {h : HNet F} (w : WFTree h) : WFTree h.flatten := by
  cases w with
  | leaf c => exact WFTree.leaf c
  | node cs links exposed hch lev =>
    have st := (WFTree.node cs links exposed hch lev).struct lev.namesNodup
    -- the wiring of the whole hierarchy, each leaf pin re-addressed by the position of its leaf
    have W := st.wired.map (ok' := IsPin ((leaves (.node cs links exposed)).map fun pc => .leaf pc.2))
      (readdress (leaves (.node cs links exposed)))
      (fun p q hp hq e => Prod.ext (hp.path_eq st hq (congrArg Prod.fst e)) (congrArg Prod.snd e :))
      (fun p q hp hq e => hp.path_eq st hq e) fun p hp => by
        obtain ⟨i, pc, hi, _, h2, hpos⟩ := hp.pos st
        refine ⟨.leaf pc.2, ?_, h2⟩
        show ((leaves (.node cs links exposed)).map fun pc => HNet.leaf pc.2)[posOf _ p.1]? = _
        rw [hpos, List.getElem?_map, hi]; rfl
    rw [exposure_node lev.namesNodup, List.map_map] at W
    rw [flatten_node]
    simp only [leafRef_eq_resolveRef]
    exact .node _ _ _ (List.forall_mem_map.2 fun pc _ => .leaf pc.2)
      (levelOK_iff_wired.2 ⟨List.forall_mem_map.2 st.pinsNodup, W⟩)

theorem resolveRef_leafList (ls : List (List Nat × CompD F)) (r : PinRef) :
    resolveRef (ls.map fun pc => HNet.leaf pc.2) r = ([r.1], r.2) := by
  unfold resolveRef
  rw [resolveAt_eq, List.getElem?_map]
  cases ls[r.1]? with
  | none => rfl
  | some pc => simp only [Option.map_some]; rw [resolve_leaf]; rfl

theorem leavesAll_leafList (ls : List (List Nat × CompD F)) (k : Nat) :
    leavesAll (ls.map fun pc => HNet.leaf pc.2) k = (ls.zipIdx k).map fun pi => ([pi.2], pi.1.2) := by
  induction ls generalizing k with
  | nil => rw [List.map_nil, leavesAll]; rfl
  | cons a t ih => rw [List.map_cons, leavesAll, leaves_leaf, ih, List.zipIdx_cons]; rfl

theorem allLinks_leafList (ls : List (List Nat × CompD F)) (links : List (PinRef × PinRef)) (exposed : List (String × PinRef)) :
    allLinks (.node (ls.map fun pc => HNet.leaf pc.2) links exposed) =
      links.map fun l => (([l.1.1], l.1.2), ([l.2.1], l.2.2)) := by
  have h0 : ∀ k, allLinksAll (ls.map fun pc => HNet.leaf pc.2) k = [] := by
    induction ls with
    | nil => intro k; rw [List.map_nil, allLinksAll]
    | cons a t ih => intro k; rw [List.map_cons, allLinksAll, allLinks_leaf, ih]; rfl
  rw [allLinks, h0, List.append_nil]
  simp only [leafRef_eq_resolveRef, resolveRef_leafList]

/-- a circuit without sub-circuits: a component, or one level of components -/
def IsFlat : HNet F → Prop
  | .leaf _ => True
  | .node cs _ _ => ∀ ch ∈ cs, ∃ c, ch = HNet.leaf c

theorem flatten_isFlat (h : HNet F) : IsFlat h.flatten := by
  cases h with
  | leaf c => exact True.intro
  | node cs links exposed =>
    rw [flatten_node]
    intro ch hch
    obtain ⟨pc, _, rfl⟩ := List.mem_map.1 hch
    exact ⟨pc.2, rfl⟩

theorem leaves_flatten_comps (h : HNet F) : (leaves h.flatten).map (·.2) = (leaves h).map (·.2) := by
  cases h with
  | leaf c => rfl
  | node cs links exposed =>
    rw [flatten_node, leaves_node, leavesAll_leafList, List.map_map]
    exact List.map_zipIdx_fst _ fun pc : List Nat × CompD F => pc.2

/-- in one level of components the leaf at position `j` has the path `[j]` (and no leaf has the path `[length]`) -/
theorem posOf_leafList (ls : List (List Nat × CompD F)) {j : Nat} (hj : j ≤ ls.length) :
    posOf (ls.zipIdx.map fun pi => ([pi.2], pi.1.2)) [j] = j := by
  unfold posOf
  rw [List.findIdx_map]
  rcases Nat.lt_or_eq_of_le hj with h | rfl
  · refine (List.findIdx_eq (by rwa [List.length_zipIdx])).2 ⟨?_, fun i hi => ?_⟩
    · rw [List.getElem_zipIdx]; exact beq_iff_eq.2 (by rw [Nat.zero_add])
    · rw [List.getElem_zipIdx]
      exact beq_eq_false_iff_ne.2 fun e => Nat.ne_of_lt hi (by rw [← Nat.zero_add i]; exact (List.cons.inj e).1)
  · rw [List.findIdx_eq_length_of_false, List.length_zipIdx]
    intro x hx
    have := (List.getElem?_eq_some_iff.1 (List.mem_zipIdx_iff_getElem?.1 hx)).1
    exact beq_eq_false_iff_ne.2 fun e => Nat.lt_irrefl _ ((List.cons.inj e).1 ▸ this)

theorem flatten_idem (h : HNet F) : h.flatten.flatten = h.flatten := by
  cases h with
  | leaf c => rfl
  | node cs links exposed =>
    rw [flatten_node]
    generalize leaves (HNet.node cs links exposed) = ls
    generalize allLinks (HNet.node cs links exposed) = al
    rw [flatten_node, allLinks_leafList, leaves_node, leavesAll_leafList]
    -- re-addressing a position-addressed pin gives it back
    have hback : ∀ p : HPin, readdress (ls.zipIdx.map fun pi => ([pi.2], pi.1.2)) ([(readdress ls p).1], (readdress ls p).2) =
        readdress ls p := fun p => by
      show (posOf _ [posOf ls p.1], p.2) = _
      rw [posOf_leafList ls (j := posOf ls p.1) List.findIdx_le_length]; rfl
    congr 1
    · rw [List.map_map]
      exact List.map_zipIdx_fst ls fun pc => HNet.leaf pc.2
    · rw [List.map_map, List.map_map]
      exact List.map_congr_left fun l _ => Prod.ext (hback l.1) (hback l.2)
    · rw [List.map_map]
      refine List.map_congr_left fun e _ => Prod.ext rfl ?_
      show readdress _ (leafRef _ (readdress ls (leafRef cs e.2))) = _
      rw [leafRef_eq_resolveRef (ls.map _), resolveRef_leafList]
      exact hback _

theorem pinNames_flatten (h : HNet F) : pinNames h.flatten = pinNames h := by
  cases h with
  | leaf c => rfl
  | node cs links exposed => exact List.map_map

/-- path-addressed leaf pin ↦ position-addressed leaf pin -/
def toPos (ls : List (List Nat × CompD F)) (p : HPin) : HPin := ([posOf ls p.1], p.2)
/-- and back -/
def ofPos (ls : List (List Nat × CompD F)) (q : HPin) : HPin := (((ls[q.1.headD 0]?).map (·.1)).getD [], q.2)

theorem ofPos_toPos {h : HNet F} (st : Struct h) {p : HPin} (hp : IsLeafPin h p) :
    ofPos (leaves h) (toPos (leaves h) p) = p := by
  obtain ⟨i, pc, hi, h1, _, hpos⟩ := hp.pos st
  show ((((leaves h)[posOf (leaves h) p.1]?).map (·.1)).getD [], p.2) = p
  rw [hpos, hi]
  exact Prod.ext h1 rfl

theorem resolveRef_readdress (ls : List (List Nat × CompD F)) (cs : List (HNet F)) (r : PinRef) :
    resolveRef (ls.map fun pc => HNet.leaf pc.2) (readdress ls (leafRef cs r)) = toPos ls (resolveRef cs r) := by
  rw [resolveRef_leafList, leafRef_eq_resolveRef]; rfl

variable [Field F] [DecidableEq F]

theorem flat_flatten {cs : List (HNet F)} {links : List (PinRef × PinRef)} {exposed : List (String × PinRef)}
    (st : Struct (.node cs links exposed)) :
    (flat (.node cs links exposed)).map (toPos (leaves (.node cs links exposed))) (ofPos (leaves (.node cs links exposed))) =
      flat (flatten (.node cs links exposed)) := by
  have hnd := st.leafNodup
  generalize hls : leaves (HNet.node cs links exposed) = ls at hnd
  refine ANet.ext_of ?_ ?_ ?_
  · show (flat (HNet.node cs links exposed)).parts.map
        (fun part => (part.1.map (toPos ls), fun q q' => part.2 (ofPos ls q) (ofPos ls q'))) = _
    rw [flat_parts (flatten _), flatten_node, leaves_node, hls, leavesAll_leafList, flat_parts, hls, List.map_map, List.map_map]
    refine (List.map_zipIdx_fst ls _).symm.trans (List.map_congr_left fun pi hpi => Prod.ext ?_ rfl)
    show (pi.1.2.pins.map fun x => (pi.1.1, x)).map (toPos ls) = pi.1.2.pins.map fun x => ([pi.2], x)
    rw [List.map_map]
    refine List.map_congr_left fun x _ => ?_
    show ([posOf ls pi.1.1], x) = ([pi.2], x)
    rw [posOf_of_getElem? ls hnd pi.2 pi.1 (List.mem_zipIdx_iff_getElem?.1 hpi)]
  · show (flat (HNet.node cs links exposed)).links.map (fun l => (toPos ls l.1, toPos ls l.2)) = _
    rw [flat_links (flatten _), flatten_node, hls, allLinks_leafList, flat_links, List.map_map]
    rfl
  · show (flat (HNet.node cs links exposed)).exposed.map (toPos ls) = _
    rw [flatten_node, flat_node, flat_node, hls]
    simp only [List.map_map]
    exact List.map_congr_left fun e _ => (resolveRef_readdress ls cs _).symm

/-- C11, `flatten()` preserves the scattering matrix: the hierarchical solve of a well-formed hierarchy and the solve of its
flattening (any schedules, at any level) return the same pins and the same coefficient between every two of them -/
theorem flatten_preserves (s s' : List (St F) → Option (Nat × Nat)) (h : HNet F) (w : WFTree h) (c c' : CompD F)
    (hs : solveH s h = .ok c) (hs' : solveH s' h.flatten = .ok c') :
    c'.pins = c.pins ∧ ∀ x ∈ c.pins, ∀ y ∈ c.pins, c'.sem x y = c.sem x y := by
  obtain ⟨T, hT⟩ := solveH_flatInv s w c hs
  cases w with
  | leaf c0 =>
    obtain rfl := solveH_leaf_eq hs hs'
    exact ⟨rfl, fun _ _ _ _ => rfl⟩
  | node cs links exposed hch lev =>
    have w := WFTree.node cs links exposed hch lev
    have hn := lev.namesNodup
    have st := w.struct hn
    have hp : c.pins = exposed.map (·.1) := solveH_pins s _ c hs
    have hp' : c'.pins = c.pins := (solveH_pins s' _ c' hs').trans ((pinNames_flatten _).trans hp.symm)
    -- the operator of the hierarchy, renamed, is an operator of the flattening: the only one
    have huniq := solveH_flat_operator s' _ w.flatten c' hs' (hp' ▸ hp ▸ hn) _
      (flat_flatten st ▸ ANet.map_solvedBy (fun p hp => ofPos_toPos st (st.leafPin_of_mentions hn hp)) T hT.solved)
    -- a name of the flattening stands for the re-addressed pin
    have hres : ∀ x ∈ c.pins, ofPos (leaves (.node cs links exposed)) (resolve (flatten (.node cs links exposed)) x) =
        resolve (.node cs links exposed) x := by
      intro x hx
      obtain ⟨e, he, rfl⟩ := List.mem_map.1 (hp ▸ hx)
      rw [flatten_node, resolve_node_of_mem (by rw [List.map_map]; exact hn) _ (List.mem_map.2 ⟨e, he, rfl⟩),
        resolveRef_readdress, resolve_node_of_mem hn e he]
      exact ofPos_toPos st (st.wired.expOk _ (exposure_node hn ▸ List.mem_map.2 ⟨e, he, rfl⟩))
    refine ⟨hp', fun x hx y hy => ?_⟩
    rw [← huniq x (hp' ▸ hx) y (hp' ▸ hy), hres x hx, hres y hy]
    exact hT.coeff x hx y hy

/-- the flattening of a well-formed hierarchy satisfies the hypotheses of C01 at its only level, for every schedule -/
theorem flatten_levelsOK (sched : List (St F) → Option (Nat × Nat)) {h : HNet F} (w : WFTree h) :
    LevelsOK sched h.flatten := w.flatten.levelsOK sched

end HNet
