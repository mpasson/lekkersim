import LekkerVerif.Core.Kernel
import Mathlib.Algebra.BigOperators.Fin
import Mathlib.Data.List.FinRange

/-! Pin-keyed matrices over an arbitrary pin type, and their partition along two families of pins.
A component equation over a pin list that is, up to order, the family `r` followed by the family `c`
is the block action of `part S r c` (`eqn_iff_part`); everything that relates a structure to the
partitioned matrices of `S_matrix.add` goes through this one correspondence. -/

open Matrix

variable {F : Type*} [Field F]

variable {P : Type*}

def rowSum (pins : List P) (S : P → P → F) (a : P → F) (p : P) : F := (pins.map fun q => S p q * a q).sum
def Eqn (pins : List P) (S : P → P → F) (a b : P → F) : Prop := ∀ p ∈ pins, b p = rowSum pins S a p

def blk {ι κ : Type*} (S : P → P → F) (rows : ι → P) (cols : κ → P) : Matrix ι κ F := fun i j => S (rows i) (cols j)

theorem rowSum_perm {pins pins' : List P} (h : pins.Perm pins') (S : P → P → F) (a : P → F) (p : P) :
    rowSum pins S a p = rowSum pins' S a p := by
  unfold rowSum; exact (h.map _).sum_eq

theorem rowSum_append (l₁ l₂ : List P) (S : P → P → F) (a : P → F) (p : P) :
    rowSum (l₁ ++ l₂) S a p = rowSum l₁ S a p + rowSum l₂ S a p := by
  unfold rowSum; simp

theorem rowSum_congr (pins : List P) (S : P → P → F) (a a' : P → F) (p : P) (h : ∀ q ∈ pins, a q = a' q) :
    rowSum pins S a p = rowSum pins S a' p := by
  unfold rowSum
  exact congrArg List.sum (List.map_congr_left fun q hq => by rw [h q hq])

section part
variable {n m : ℕ} {pins : List P} {r : Fin n → P} {c : Fin m → P}

/-- `S` partitioned along the families `r` (first side) and `c` (second side), in the block layout of `SM` -/
def part (S : P → P → F) (r : Fin n → P) (c : Fin m → P) : SM F (Fin n) (Fin m) :=
  { S21 := blk S r r, S22 := blk S r c, S11 := blk S c r, S12 := blk S c c }

theorem sum_map_of_perm {M : Type*} [AddCommMonoid M] (h : pins.Perm (List.ofFn r ++ List.ofFn c)) (f : P → M) :
    (pins.map f).sum = ∑ i, f (r i) + ∑ j, f (c j) := by
  rw [(h.map f).sum_eq, List.map_append, List.sum_append, List.map_ofFn, List.map_ofFn, List.sum_ofFn,
    List.sum_ofFn]
  rfl

theorem mem_of_perm (h : pins.Perm (List.ofFn r ++ List.ofFn c)) (p : P) :
    p ∈ pins ↔ (∃ i, r i = p) ∨ ∃ j, c j = p := by
  rw [h.mem_iff, List.mem_append, List.mem_ofFn, List.mem_ofFn]

theorem eqn_iff_part (h : pins.Perm (List.ofFn r ++ List.ofFn c)) (S : P → P → F) (a b : P → F) :
    Eqn pins S a b ↔
      b ∘ r = (part S r c).S21 *ᵥ (a ∘ r) + (part S r c).S22 *ᵥ (a ∘ c) ∧
      b ∘ c = (part S r c).S11 *ᵥ (a ∘ r) + (part S r c).S12 *ᵥ (a ∘ c) := by
  have row {ι : Type} (x : ι → P) : rowSum pins S a ∘ x = blk S x r *ᵥ (a ∘ r) + blk S x c *ᵥ (a ∘ c) := by
    funext i; exact sum_map_of_perm h _
  constructor
  · intro e
    exact ⟨(funext fun i => e _ ((mem_of_perm h _).2 (.inl ⟨i, rfl⟩))).trans (row r),
      (funext fun j => e _ ((mem_of_perm h _).2 (.inr ⟨j, rfl⟩))).trans (row c)⟩
  · rintro ⟨e₁, e₂⟩ p hp
    rcases (mem_of_perm h p).1 hp with ⟨i, rfl⟩ | ⟨j, rfl⟩
    · exact congrFun (e₁.trans (row r).symm) i
    · exact congrFun (e₂.trans (row c).symm) j

theorem exists_waves (hnd : pins.Nodup) (h : pins.Perm (List.ofFn r ++ List.ofFn c)) (u : Fin n → F) (g : Fin m → F) :
    ∃ a : P → F, a ∘ r = u ∧ a ∘ c = g := by
  have inj : Function.Injective (Fin.append r c) := by
    rw [← List.nodup_ofFn, List.ofFn_fin_append]; exact h.nodup_iff.1 hnd
  refine ⟨Function.extend (Fin.append r c) (Fin.append u g) 0, funext fun i => ?_, funext fun j => ?_⟩
  · rw [Function.comp, ← Fin.append_left r c i, inj.extend_apply, Fin.append_left]
  · rw [Function.comp, ← Fin.append_right r c j, inj.extend_apply, Fin.append_right]

theorem forall_waves_iff (hnd : pins.Nodup) (h : pins.Perm (List.ofFn r ++ List.ofFn c)) (S : P → P → F)
    (Φ : (Fin n → F) → (Fin m → F) → (Fin n → F) → (Fin m → F) → Prop) :
    (∀ a, Φ (a ∘ r) (a ∘ c) (rowSum pins S a ∘ r) (rowSum pins S a ∘ c)) ↔
      ∀ u g, Φ u g ((part S r c).S21 *ᵥ u + (part S r c).S22 *ᵥ g) ((part S r c).S11 *ᵥ u + (part S r c).S12 *ᵥ g) := by
  have out (a : P → F) := (eqn_iff_part h S a (rowSum pins S a)).1 fun _ _ => rfl
  constructor
  · intro H u g
    obtain ⟨a, rfl, rfl⟩ := exists_waves hnd h u g
    rw [← (out a).1, ← (out a).2]; exact H a
  · intro H a
    rw [(out a).1, (out a).2]; exact H _ _

theorem pairEq_of_eqn {k : ℕ} {pinsA pinsB : List P} {kA : Fin n → P} {cA cB : Fin k → P} {kB : Fin m → P}
    {SA SB : P → P → F} (hA : pinsA.Perm (List.ofFn kA ++ List.ofFn cA)) (hB : pinsB.Perm (List.ofFn cB ++ List.ofFn kB))
    (a b : P → F) (eA : Eqn pinsA SA a b) (eB : Eqn pinsB SB a b) (hl : a ∘ cA = b ∘ cB ∧ a ∘ cB = b ∘ cA) :
    PairEq (part SA kA cA) (part SB cB kB) (a ∘ kA) (a ∘ kB) (b ∘ kA) (b ∘ kB) (b ∘ cA) (a ∘ cA) := by
  obtain ⟨a1, a2⟩ := (eqn_iff_part hA SA a b).1 eA
  obtain ⟨b1, b2⟩ := (eqn_iff_part hB SB a b).1 eB
  exact ⟨a1, a2, by rw [hl.1, ← hl.2]; exact b1, by rw [← hl.2]; exact b2⟩

end part

variable [DecidableEq P]

theorem sum_indicator (E : List P) (hn : E.Nodup) (f : P → F) {y : P} (hy : y ∈ E) :
    (E.map fun e => f e * if e = y then 1 else 0).sum = f y := by
  rw [← List.sum_toFinset _ hn]; simp [hy]

theorem List.ofFn_comp_get {α β : Type*} (l : List α) (f : α → β) : List.ofFn (f ∘ l.get) = l.map f := by
  rw [← List.map_ofFn, List.ofFn_get]

/-- the join of two parts along their links is sound for every solution of the two parts' equations -/
theorem join_sound_abstract
    (pinsA pinsB keptA keptB : List P) (links : List (P × P)) (SA SB : P → P → F)
    (hA : pinsA.Perm (keptA ++ links.map Prod.fst)) (hB : pinsB.Perm (links.map Prod.snd ++ keptB))
    (a b : P → F) (eA : Eqn pinsA SA a b) (eB : Eqn pinsB SB a b)
    (hl : ∀ l ∈ links, a l.1 = b l.2 ∧ a l.2 = b l.1) :
    let kA : Fin keptA.length → P := fun i => keptA[i]
    let kB : Fin keptB.length → P := fun i => keptB[i]
    let cA : Fin links.length → P := fun i => links[i].1
    let cB : Fin links.length → P := fun i => links[i].2
    let A : SM F (Fin keptA.length) (Fin links.length) :=
      { S21 := blk SA kA kA, S22 := blk SA kA cA, S11 := blk SA cA kA, S12 := blk SA cA cA }
    let B : SM F (Fin links.length) (Fin keptB.length) :=
      { S21 := blk SB cB cB, S22 := blk SB cB kB, S11 := blk SB kB cB, S12 := blk SB kB kB }
    IsUnit (1 - A.S12 * B.S21) →
    (b ∘ kA = (A.add B).S21 *ᵥ (a ∘ kA) + (A.add B).S22 *ᵥ (a ∘ kB)) ∧
    (b ∘ kB = (A.add B).S11 *ᵥ (a ∘ kA) + (A.add B).S12 *ᵥ (a ∘ kB)) := by
  have hA' : pinsA.Perm (List.ofFn keptA.get ++ List.ofFn (Prod.fst ∘ links.get)) := by
    rwa [List.ofFn_get, List.ofFn_comp_get]
  have hB' : pinsB.Perm (List.ofFn (Prod.snd ∘ links.get) ++ List.ofFn keptB.get) := by
    rwa [List.ofFn_get, List.ofFn_comp_get]
  intro kA kB cA cB A B hu
  exact star_sound A B hu _ _ _ _ _ _ (pairEq_of_eqn hA' hB' a b eA eB
    ⟨funext fun i => (hl _ (List.getElem_mem i.2)).1, funext fun i => (hl _ (List.getElem_mem i.2)).2⟩)
