import LekkerVerif.Core.HierStruct

/-! The recursive solve returns a solution operator of the flattened circuit (`HNet.solveH_sound`), the only one
(`HNet.solveH_flat_operator`), so its result does not depend on the merge schedules inside the levels (`HNet.solveH_unique`).
The induction carries `HNet.FlatInv`; what it says about the description alone comes from `HNet.Struct`.  Its step at a
level (`HNet.flatInv_level`): rename the solved level's pins to leaf pins (`resolveRef`, injective on the pins of the level;
`ANet.map_solvedBy`), then substitute all children (`ANet.substitution_all`). -/

open NetD Solve

variable {F : Type} [Field F] [DecidableEq F]

namespace HNet

/-- what the induction carries: `T` solves the flattened circuit, its exposed pins are the resolved pin names of `c`,
`T` is `c`'s matrix there, distinct names resolve to distinct pins, and the flattened circuit is closed -/
structure FlatInv (h : HNet F) (c : CompD F) (T : HPin → HPin → F) : Prop where
  solved : h.flat.SolvedBy T
  exposed : h.flat.exposed = c.pins.map h.resolve
  coeff : ∀ x ∈ c.pins, ∀ y ∈ c.pins, T (h.resolve x) (h.resolve y) = c.sem x y
  inj : ∀ x ∈ c.pins, ∀ y ∈ c.pins, h.resolve x = h.resolve y → x = y
  closed : h.flat.ClosedFree

theorem FlatInv.mem {h : HNet F} {c : CompD F} {T : HPin → HPin → F} (hT : FlatInv h c T) {x : String} (hx : x ∈ c.pins) :
    h.resolve x ∈ h.flat.exposed := by
  rw [hT.exposed]; exact List.mem_map.2 ⟨x, hx, rfl⟩

theorem FlatInv.nodup {h : HNet F} {c : CompD F} {T : HPin → HPin → F} (hT : FlatInv h c T) (hp : c.pins.Nodup) :
    h.flat.exposed.Nodup := by
  rw [hT.exposed]
  exact hp.map_on hT.inj

/-- a component is its own flattened circuit (whether or not its pin names are distinct) -/
theorem flatInv_leaf (c : CompD F) : FlatInv (.leaf c) c (fun p q => c.sem p.2 q.2) := by
  have hres : (HNet.leaf c).resolve = fun x => (([], x) : HPin) := funext (resolve_leaf c)
  refine ⟨?_, ?_, ?_, ?_, ?_⟩
  · rw [flat_leaf]
    refine ⟨fun a b hs e he => hs.comp _ (List.mem_singleton.2 rfl) e he, fun v => ?_⟩
    refine ⟨v, fun p => rowSum (c.pins.map fun x => (([], x) : HPin)) (fun p q => c.sem p.2 q.2) v p,
      ⟨List.forall_mem_singleton.2 fun p _ => rfl, ?_, List.forall_mem_singleton.2 fun p hpp _ hne => absurd hpp hne⟩,
      fun _ _ => rfl⟩
    intro l hl; cases hl
  · rw [flat_leaf, hres]
  · intro x _ y _; rw [hres]
  · intro x _ y _ h; rw [hres] at h; exact (Prod.mk.inj h).2
  · rw [flat_leaf]
    refine ⟨?_, fun e he => ⟨⟨_, List.mem_singleton.2 rfl, he⟩, ?_⟩⟩
    · intro l hl; cases hl
    · intro q hq; rcases hq with hq | hq <;> cases hq

/-- the step at a level: `net` is any description whose components are the children's results, `total` any structure that
solves it -/
theorem flatInv_level (cs : List (HNet F)) (net : NetD F) (total : St F)
    (hch : List.Forall₂ (fun h c => ∃ T, FlatInv h c T) cs net.comps)
    (wf : net.WF) (ex : net.ExposureOK) (hn : (net.exposed.map (·.1)).Nodup) (hT : net.SolvedBy total.sem)
    (st : Struct (.node cs net.links net.exposed)) :
    ∃ T, FlatInv (.node cs net.links net.exposed) (net.extract total) T := by
  -- the renaming of the level's pins to leaf pins is injective on the pins of the level, so it has a left inverse there
  have hinj : Set.InjOn (resolveRef cs) {r | ∃ c, net.comps[r.1]? = some c ∧ r.2 ∈ c.pins} := by
    rintro ⟨k, x⟩ ⟨c, hc, hx⟩ ⟨k', y⟩ ⟨c', hc', hy⟩ e
    obtain ⟨h, hk, T, hF⟩ := hch.of_getElem?_right hc
    obtain ⟨h', hk', -⟩ := hch.of_getElem?_right hc'
    obtain ⟨rfl, rfl, e'⟩ := resolveRef_inj (r := (k, x)) (r' := (k', y)) hk hk' e
    obtain rfl : c = c' := Option.some.inj (hc.symm.trans hc')
    rw [hF.inj x hx y hy e']
  have hg := hinj.leftInvOn_invFunOn
  generalize Function.invFunOn (resolveRef cs) _ = g at hg
  have hexp : ∀ e ∈ net.exposed, ∃ c, net.comps[e.2.1]? = some c ∧ e.2.2 ∈ c.pins :=
    fun e he => (mem_initial_pins net e.2).1 (ex.free e he).1
  have hM := ANet.map_solvedBy (f := resolveRef cs) (g := g) (fun p hp => hg (mentions_pin wf ex hp)) total.sem
    (net.toANet_solvedBy total.sem hT)
  -- the children with their results and positions; each flattened child under its position, with the matrix the level uses
  let Cs : List (ANet HPin F × (HPin → HPin → F)) := (cs.zip net.comps).zipIdx.map fun k =>
    ((flat k.1.1).map (pre k.2) unpre, fun q q' => (net.mkSt k.2 k.1.2).sem (g q) (g q'))
  have hzip : ∀ {h c i}, ((h, c), i) ∈ (cs.zip net.comps).zipIdx → cs[i]? = some h ∧ net.comps[i]? = some c ∧ ∃ T, FlatInv h c T := by
    intro h c i hk
    obtain ⟨h1, h2⟩ := List.getElem?_zip_eq_some.1 (List.mem_zipIdx_iff_getElem?.1 hk)
    obtain ⟨h', hk', hF⟩ := hch.of_getElem?_right h2
    obtain rfl : h' = h := Option.some.inj (hk'.symm.trans h1)
    exact ⟨h1, h2, hF⟩
  -- the exposed pins of a flattened child under its position are the renamed pins of its component in the level
  have hCexp : ∀ {h c i T}, cs[i]? = some h → FlatInv h c T →
      ((flat h).map (pre i) unpre).exposed = c.pins.map fun x => resolveRef cs (i, x) := by
    intro h c i T hk hF
    show (flat h).exposed.map (pre i) = _
    rw [hF.exposed, List.map_map]
    exact List.map_congr_left fun x _ => (resolveRef_eq (r := (i, x)) hk).symm
  have hpins : ∀ i (c : CompD F), (net.mkSt i c).pins.map (resolveRef cs) = c.pins.map fun x => resolveRef cs (i, x) :=
    fun i c => List.map_map
  have hCclosed : ∀ C ∈ Cs, C.1.ClosedFree := List.forall_mem_map.2 fun k hk =>
    (hzip hk).2.2.elim fun _ hF => ANet.ClosedFree.map (unpre_pre k.2) hF.closed
  -- a pin of the level that lies in a flattened child is one of its exposed pins
  have hkey : ∀ C ∈ Cs, ∀ r : PinRef, (∃ c, net.comps[r.1]? = some c ∧ r.2 ∈ c.pins) → C.1.pinSet (resolveRef cs r) →
      resolveRef cs r ∈ C.1.exposed := by
    refine List.forall_mem_map.2 ?_
    rintro ⟨⟨h, c'⟩, i⟩ hm r ⟨c, hc, hr⟩ hp
    obtain ⟨hk, hc', T, hF⟩ := hzip hm
    obtain ⟨p, -, hp⟩ := (ANet.pinSet_map _).1 hp
    obtain rfl : r.1 = i := List.head_eq_of_cons_eq (congrArg Prod.fst hp)
    obtain rfl : c = c' := Option.some.inj (hc.symm.trans hc')
    rw [hCexp hk hF]
    exact List.mem_map.2 ⟨r.2, hr, rfl⟩
  let Lφ := net.links.map fun l => (resolveRef cs l.1, resolveRef cs l.2)
  let Eφ := net.exposed.map fun e => resolveRef cs e.2
  let T : HPin → HPin → F := fun q q' => total.sem (g q) (g q')
  -- the renamed level is the level of the flattened children, each seen as one part on its exposed pins
  have hwrapped : (ANet.wrapped [] Cs Lφ Eφ).SolvedBy T := by
    have e : net.toANet.map (resolveRef cs) g = ANet.wrapped [] Cs Lφ Eφ := by
      refine ANet.ext_of ?_ rfl (List.map_map : (net.exposed.map (·.2)).map (resolveRef cs) = _)
      show (net.initial.map fun s => (s.pins, s.sem)).map
          (fun part => (part.1.map (resolveRef cs), fun q q' => part.2 (g q) (g q'))) = Cs.map fun C => (C.1.exposed, C.2)
      rw [NetD.initial, ← List.map_snd_zip (l₁ := cs) (Nat.le_of_eq hch.length_eq.symm), List.zipIdx_map]
      simp only [Cs, List.map_map]
      refine List.map_congr_left ?_
      rintro ⟨⟨h, c⟩, i⟩ hk
      obtain ⟨h1, -, T, hF⟩ := hzip hk
      exact Prod.ext ((hpins i c).trans (hCexp h1 hF).symm) rfl
    exact e ▸ hM
  have hinl : (ANet.inlinedAll [] Cs Lφ Eφ).SolvedBy T := by
    apply ANet.substitution_all Cs [] Lφ Eφ T _ hCclosed _ _ _ _ hwrapped
    · refine List.forall_mem_map.2 ?_
      rintro ⟨⟨h, c⟩, i⟩ hm
      obtain ⟨hk, hc, Tc, hF⟩ := hzip hm
      refine ⟨fun q q' => Tc (unpre q) (unpre q'), ANet.map_solvedBy (fun p _ => unpre_pre i p) Tc hF.solved, ?_⟩
      intro p hp q hq
      rw [hCexp hk hF] at hp hq
      obtain ⟨x, hx, rfl⟩ := List.mem_map.1 hp
      obtain ⟨y, hy, rfl⟩ := List.mem_map.1 hq
      show (net.mkSt i c).sem (g _) (g _) = Tc (unpre _) (unpre _)
      rw [hg ⟨c, hc, hx⟩, hg ⟨c, hc, hy⟩, NetD.mkSt_sem, resolveRef_eq (r := (i, x)) hk, resolveRef_eq (r := (i, y)) hk]
      exact (hF.coeff x hx y hy).symm
    · intro part hp; cases hp
    · -- children at different positions have different path heads
      refine List.pairwise_map.2 ((List.pairwise_zipIdx_lt _ 0).imp ?_)
      intro a b hab p h1 h2
      obtain ⟨p1, -, rfl⟩ := (ANet.pinSet_map _).1 h1
      obtain ⟨p2, -, h2⟩ := (ANet.pinSet_map _).1 h2
      exact absurd (List.head_eq_of_cons_eq (congrArg Prod.fst h2)) (Nat.ne_of_lt hab)
    · intro l' hl' C hC
      obtain ⟨l, hl, rfl⟩ := List.mem_map.1 hl'
      exact ⟨hkey C hC l.1 (wf.endsPins l hl _ (.inl rfl)), hkey C hC l.2 (wf.endsPins l hl _ (.inr rfl))⟩
    · intro e' he' C hC
      obtain ⟨e, he, rfl⟩ := List.mem_map.1 he'
      exact hkey C hC e.2 (hexp e he)
  -- the flattened node is that network with all children inlined
  have hflat : flat (.node cs net.links net.exposed) = ANet.inlinedAll [] Cs Lφ Eφ := by
    have h1 : ∀ {β : Type} (sel : ANet HPin F → List β),
        (cs.zipIdx.flatMap fun hi => sel ((flat hi.1).map (pre hi.2) unpre)) = Cs.flatMap fun C => sel C.1 := by
      intro β sel
      rw [← List.map_fst_zip (Nat.le_of_eq hch.length_eq), List.zipIdx_map, List.flatMap_map, List.flatMap_map]
      rfl
    rw [flat_node, h1, h1]
    rfl
  refine ⟨T, ⟨hflat ▸ hinl, flat_exposed hn, ?_, st.inj, st.closedFree hn⟩⟩
  intro x hx y hy
  obtain ⟨e, he, rfl⟩ := List.mem_map.1 hx
  obtain ⟨e', he', rfl⟩ := List.mem_map.1 hy
  rw [resolve_node_of_mem hn e he, resolve_node_of_mem hn e' he']
  show total.sem (g _) (g _) = _
  rw [hg (hexp e he), hg (hexp e' he'), NetD.extract_sem net total hn e e' he he']

theorem solveH_flatInv (sched : List (St F) → Option (Nat × Nat)) {h : HNet F} (w : WFTree h) :
    ∀ c, solveH sched h = .ok c → ∃ T, FlatInv h c T := by
  induction w with
  | leaf c0 =>
    intro c hs
    rw [solveH_leaf] at hs
    cases hs
    exact ⟨_, flatInv_leaf c0⟩
  | node cs links exposed hch lev ih =>
    intro c hs
    have w := WFTree.node cs links exposed hch lev
    obtain ⟨comps, total, hF, rfl, wf, ex, hT⟩ := w.solveH_node hs
    exact flatInv_level cs (levelNet comps links exposed) total (hF.imp_of_mem ih) wf ex lev.namesNodup hT
      (w.struct lev.namesNodup)

/-- the hierarchical solve is sound for the flattened circuit (C02): if every level of the hierarchy is well formed and the
recursive solve returns `c`, then `c` carries — between its pin names, each standing for the leaf pin it resolves to —
a solution operator of the single-level network made of all leaves and all connections -/
theorem solveH_sound (sched : List (St F) → Option (Nat × Nat)) (h : HNet F) (ok : LevelsOK sched h)
    (c : CompD F) (hs : solveH sched h = .ok c) :
    ∃ T, h.flat.SolvedBy T ∧ h.flat.exposed = c.pins.map h.resolve ∧
      ∀ x ∈ c.pins, ∀ y ∈ c.pins, T (h.resolve x) (h.resolve y) = c.sem x y := by
  obtain ⟨T, hT⟩ := solveH_flatInv sched (ok.wfTree c hs) c hs
  exact ⟨T, hT.solved, hT.exposed, hT.coeff⟩

/-- and it is the only one: whatever computes a solution operator of the flattened circuit (for instance the
elimination loop on the flat description, any schedule) finds the coefficients the hierarchical solve returned -/
theorem solveH_flat_operator (sched : List (St F) → Option (Nat × Nat)) (h : HNet F) (w : WFTree h)
    (c : CompD F) (hs : solveH sched h = .ok c) (hp : c.pins.Nodup)
    (T' : HPin → HPin → F) (hT' : h.flat.SolvedBy T') :
    ∀ x ∈ c.pins, ∀ y ∈ c.pins, T' (h.resolve x) (h.resolve y) = c.sem x y := by
  obtain ⟨T, hT⟩ := solveH_flatInv sched w c hs
  intro x hx y hy
  rw [← hT.coeff x hx y hy]
  exact ANet.solvedBy_unique h.flat (hT.nodup hp) T' T hT' hT.solved _ (hT.mem hx) _ (hT.mem hy)

/-- the result does not depend on the schedules: two runs of the recursion on a hierarchy that presents distinct pin names
return the same pins and the same coefficient between every two of them -/
theorem solveH_unique (s s' : List (St F) → Option (Nat × Nat)) {h : HNet F} (w : WFTree h) (hn : (pinNames h).Nodup)
    {c c' : CompD F} (hs : solveH s h = .ok c) (hs' : solveH s' h = .ok c') :
    c'.pins = c.pins ∧ ∀ x ∈ c.pins, ∀ y ∈ c.pins, c'.sem x y = c.sem x y := by
  have hp : c'.pins = c.pins := (solveH_pins s' h c' hs').trans (solveH_pins s h c hs).symm
  obtain ⟨T, hT⟩ := solveH_flatInv s w c hs
  refine ⟨hp, fun x hx y hy => ?_⟩
  rw [← hT.coeff x hx y hy]
  exact (solveH_flat_operator s' h w c' hs' (solveH_pins s' h c' hs' ▸ hn) T hT.solved x (hp ▸ hx) y (hp ▸ hy)).symm

end HNet
