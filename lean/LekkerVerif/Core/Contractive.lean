import LekkerVerif.Core.DefinedLoop
import LekkerVerif.Core.Energy
import Mathlib.Analysis.Complex.Norm

/-! A network of strictly passive components always solves.  A partitioned matrix or a structure is `c`-contractive when
the outgoing power is at most `c` times the incoming power (strictly passive for `0 ≤ c < 1`: at least the fraction
`1 - c` is dissipated); the power is a per-wave weight `w : F → ℝ` that is non-negative and vanishes exactly at `0`,
over `ℂ` it is `w z = ‖z‖²`.  For `c < 1` the inner system `1 - A.S12 * B.S21` of two `c`-contractive matrices is
invertible, since a fixed point `x` of `A.S12 * B.S21` would satisfy `|x|² ≤ c² |x|²` (`isUnit_of_contractive`), and their
star product is again `c`-contractive (`star_contractive`).  So a merge of two `c`-contractive structures on a consistent
state cannot fail (`St.join_ok_of_contr`), and the elimination loop never meets a singular inner system
(`NetD.solveWith_ok_of_contr`). -/

open Matrix

section kernel
variable {F : Type*} [Field F]
variable {n k m : Type*} [Fintype n] [Fintype k] [Fintype m]

/-- `A` outputs at most `c` times the power it receives; power measured by arbitrary functionals on the two sides
(the factor-`c` form of `SM.PassiveWrt`) -/
def SM.ContrWrt (c : ℝ) (A : SM F n m) (pn : (n → F) → ℝ) (pm : (m → F) → ℝ) : Prop :=
  ∀ u g, pn (A.S21 *ᵥ u + A.S22 *ᵥ g) + pm (A.S11 *ᵥ u + A.S12 *ᵥ g) ≤ c * (pn u + pm g)

theorem SM.contrWrt_one_iff (A : SM F n m) (pn : (n → F) → ℝ) (pm : (m → F) → ℝ) :
    A.ContrWrt 1 pn pm ↔ A.PassiveWrt pn pm := by
  unfold SM.ContrWrt SM.PassiveWrt
  simp only [one_mul]

variable [DecidableEq k]

theorem isUnit_of_contractive (c : ℝ) (h0 : 0 ≤ c) (hc : c < 1) (A : SM F n k) (B : SM F k m)
    (pn : (n → F) → ℝ) (pk : (k → F) → ℝ) (pm : (m → F) → ℝ)
    (hn : ∀ x, 0 ≤ pn x) (hm : ∀ x, 0 ≤ pm x) (hk : ∀ x, 0 ≤ pk x)
    (hn0 : pn 0 = 0) (hm0 : pm 0 = 0) (hkd : ∀ x, pk x = 0 → x = 0)
    (hA : A.ContrWrt c pn pk) (hB : B.ContrWrt c pk pm) : IsUnit (1 - A.S12 * B.S21) := by
  rw [← Matrix.mulVec_injective_iff_isUnit]
  suffices key : ∀ z, (1 - A.S12 * B.S21) *ᵥ z = 0 → z = 0 by
    intro x y hxy
    exact sub_eq_zero.1 (key (x - y) (by simp only [Matrix.mulVec_sub, hxy, sub_self]))
  intro z hz
  have hfix : A.S12 *ᵥ (B.S21 *ᵥ z) = z := by
    simp only [Matrix.sub_mulVec, Matrix.one_mulVec, sub_eq_zero, ← Matrix.mulVec_mulVec] at hz
    exact hz.symm
  have iB := hB z 0
  have iA := hA 0 (B.S21 *ᵥ z)
  simp only [Matrix.mulVec_zero, add_zero, zero_add, hn0, hm0] at iA iB
  rw [hfix] at iA
  -- iB : pk (B21 z) + pm (B11 z) ≤ c * pk z ; iA : pn (A22 B21 z) + pk z ≤ c * pk (B21 z)
  have h1 : pk (B.S21 *ᵥ z) ≤ c * pk z := (le_add_of_nonneg_right (hm _)).trans iB
  have h2 : pk z ≤ c * pk (B.S21 *ᵥ z) := (le_add_of_nonneg_left (hn _)).trans iA
  have h3 : pk z ≤ c * c * pk z := by rw [mul_assoc]; exact h2.trans (mul_le_mul_of_nonneg_left h1 h0)
  have hcc : c * c < 1 := mul_lt_one_of_nonneg_of_lt_one_left h0 hc hc.le
  exact hkd _ (le_antisymm (le_of_not_gt fun hp => (h3.trans_lt (mul_lt_of_lt_one_left hp hcc)).false) (hk z))

variable [DecidableEq n] [DecidableEq m]

theorem star_contractive (c : ℝ) (hc1 : c ≤ 1) (A : SM F n k) (B : SM F k m) (h : IsUnit (1 - A.S12 * B.S21))
    (pn : (n → F) → ℝ) (pk : (k → F) → ℝ) (pm : (m → F) → ℝ) (hk : ∀ x, 0 ≤ pk x)
    (hA : A.ContrWrt c pn pk) (hB : B.ContrWrt c pk pm) : (A.add B).ContrWrt c pn pm := by
  intro u d
  obtain ⟨f, g, e1, e2, e3, e4⟩ := star_complete A B h u d
  have iA := hA u g
  have iB := hB f d
  rw [← e1, ← e2] at iA
  rw [← e3, ← e4] at iB
  -- iA : pn rA + pk f ≤ c * (pn u + pk g) ;  iB : pk g + pm rB ≤ c * (pk f + pm d)
  have hnn : 0 ≤ (1 - c) * (pk f + pk g) := mul_nonneg (sub_nonneg.2 hc1) (add_nonneg (hk f) (hk g))
  linarith

end kernel

section weight
variable {F : Type}

theorem pwφ_nonneg (w : F → ℝ) (w0 : ∀ z, 0 ≤ w z) {ι : Type*} [Fintype ι] (x : ι → F) : 0 ≤ pwφ w x :=
  Finset.sum_nonneg fun i _ => w0 (x i)

theorem sumL_congr (w : F → ℝ) (l : List PinRef) (x y : PinRef → F) (h : ∀ p ∈ l, x p = y p) :
    sumL w l x = sumL w l y := by
  unfold sumL
  congr 1
  exact List.map_congr_left fun p hp => by rw [h p hp]

variable [Field F]

theorem pwφ_zero (w : F → ℝ) (wz : w 0 = 0) {ι : Type*} [Fintype ι] : pwφ w (0 : ι → F) = 0 :=
  Finset.sum_eq_zero fun _ _ => wz

theorem pwφ_definite (w : F → ℝ) (w0 : ∀ z, 0 ≤ w z) (wd : ∀ z, w z = 0 → z = 0) {ι : Type*} [Fintype ι]
    (x : ι → F) (h : pwφ w x = 0) : x = 0 := by
  unfold pwφ at h
  funext i
  exact wd _ ((Finset.sum_eq_zero_iff_of_nonneg fun i _ => w0 (x i)).1 h i (Finset.mem_univ i))

variable {n k m : Type*} [Fintype n] [Fintype k] [Fintype m] [DecidableEq k]

theorem isUnit_of_contractive_pw (w : F → ℝ) (w0 : ∀ z, 0 ≤ w z) (wz : w 0 = 0) (wd : ∀ z, w z = 0 → z = 0)
    (c : ℝ) (h0 : 0 ≤ c) (hc : c < 1) (A : SM F n k) (B : SM F k m)
    (hA : A.ContrWrt c (pwφ w) (pwφ w)) (hB : B.ContrWrt c (pwφ w) (pwφ w)) :
    IsUnit (1 - A.S12 * B.S21) :=
  isUnit_of_contractive c h0 hc A B _ _ _ (pwφ_nonneg w w0) (pwφ_nonneg w w0) (pwφ_nonneg w w0)
    (pwφ_zero w wz) (pwφ_zero w wz) (pwφ_definite w w0 wd) hA hB

variable [DecidableEq F]

theorem sumL_nonneg (w : F → ℝ) (w0 : ∀ z, 0 ≤ w z) (l : List PinRef) (x : PinRef → F) : 0 ≤ sumL w l x := by
  unfold sumL
  apply List.sum_nonneg
  intro y hy
  obtain ⟨p, _, rfl⟩ := List.mem_map.1 hy
  exact w0 _

end weight

section structures
variable {F : Type} [Field F] [DecidableEq F]

/-- a structure is `c`-contractive for the per-wave power `w`: for every solution `(a, b)` of its equation
(`a` incoming, `b` outgoing) the outgoing power is at most `c` times the incoming power -/
def St.Contr (w : F → ℝ) (c : ℝ) (s : St F) : Prop :=
  ∀ a b : PinRef → F, Eqn s.pins s.sem a b → sumL w s.pins b ≤ c * sumL w s.pins a

theorem St.contr_iff_out (w : F → ℝ) (c : ℝ) (s : St F) :
    s.Contr w c ↔ ∀ a : PinRef → F, sumL w s.pins (s.out a) ≤ c * sumL w s.pins a := by
  constructor
  · intro h a
    exact h a (s.out a) fun p _ => rfl
  · intro h a b e
    rw [sumL_congr w s.pins b (s.out a) fun p hp => e p hp]
    exact h a

theorem St.contr_one_iff (w : F → ℝ) (s : St F) : s.Contr w 1 ↔ s.PassiveW w := by
  rw [St.contr_iff_out]
  unfold St.PassiveW
  simp only [one_mul]

theorem St.contr_iff_part {n m : ℕ} {r : Fin n → PinRef} {k : Fin m → PinRef} (w : F → ℝ) (c : ℝ) {s : St F}
    (hnd : s.pins.Nodup) (h : s.pins.Perm (List.ofFn r ++ List.ofFn k)) :
    s.Contr w c ↔ (part s.sem r k).ContrWrt c (pwφ w) (pwφ w) := by
  simp only [St.contr_iff_out, sumL, sum_map_of_perm h]
  exact forall_waves_iff hnd h s.sem fun u g o₁ o₂ => pwφ w o₁ + pwφ w o₂ ≤ c * (pwφ w u + pwφ w g)

end structures

section joins
variable {F : Type} [Field F] [DecidableEq F]
open Solve

theorem SMat.isUnit_inner_shape (A B : SMat F) (n k m : Nat) (hn : A.N = n) (hk : A.M = k) (hm : B.M = m) :
    IsUnit (1 - (A.toSM A.N A.M).S12 * (B.toSM A.M B.M).S21) ↔
      IsUnit (1 - (A.toSM n k).S12 * (B.toSM k m).S21) := by
  subst hn hk hm
  rfl

/-- the hypotheses on the state are those of `St.join_defined` -/
theorem St.join_ok_of_contr (w : F → ℝ) (w0 : ∀ z, 0 ≤ w z) (wz : w 0 = 0) (wd : ∀ z, w z = 0 → z = 0)
    (c : ℝ) (h0 : 0 ≤ c) (hc : c < 1)
    (L : PinRef → PinRef → Prop) (B : Nat) (hsym : ∀ p q, L p q → L q p)
    (s t : St F) (n : Nat) (bs : Book L B s) (bt : Book L B t) (cs : ConnL L s)
    (hm : ∀ k, k ∈ St.membersOf s → k ∈ St.membersOf t → False) (is : Idx s) (it : Idx t)
    (hs : s.pins.Nodup) (ht : t.pins.Nodup) (Cs : s.Contr w c) (Ct : t.Contr w c) :
    ∃ z, St.join s t n = .ok z ∧ z.Contr w c := by
  obtain ⟨links, k₁, k₂, A, B', _, h2, h3, h4, h5, hiff, _, _⟩ :=
    St.join_defined L B hsym s t n bs bt cs hm is it
  obtain ⟨pA, pB, ⟨aN, aM, _, aSM⟩, _, bM, _, bSM⟩ := St.operands_spec hs ht h2 h3 h4 h5
  have hu : IsUnit (1 - (A.toSM A.N A.M).S12 * (B'.toSM A.M B'.M).S21) := by
    rw [SMat.isUnit_inner_shape A B' _ _ _ aN aM bM, aSM, bSM]
    exact isUnit_of_contractive_pw w w0 wz wd c h0 hc _ _ ((St.contr_iff_part w c hs pA).1 Cs)
      ((St.contr_iff_part w c ht pB).1 Ct)
  obtain ⟨z, hz⟩ := hiff.2 hu
  exact ⟨z, hz, St.join_of_part (fun A => A.ContrWrt c (pwφ w) (pwφ w)) (St.contr_iff_part w c)
    (fun A B h => star_contractive c hc.le A B h _ _ _ (pwφ_nonneg w w0)) s t z n hs ht
    (disj_of_members L B s t bs bt hm) Cs Ct hz⟩

end joins

namespace NetD
variable {F : Type} [Field F] [DecidableEq F]
open Solve

theorem solveWith_ok_of_contr (w : F → ℝ) (w0 : ∀ z, 0 ≤ w z) (wz : w 0 = 0) (wd : ∀ z, w z = 0 → z = 0)
    (net : NetD F) (wf : net.WF) (hidx : net.IdxWF) (hne : net.comps ≠ [])
    (c : ℝ) (h0 : 0 ≤ c) (hc : c < 1) (hpass : ∀ s ∈ net.initial, s.Contr w c)
    (sched) (hv : ValidSched sched) :
    ∃ total, net.solveWith sched = .ok total ∧ total.Contr w c := by
  rcases solveWith_valid net wf hidx hne hv (St.Contr w c) (fun _ => False) hpass
      (fun s t n bs bt cs hm is it hs ht Cs Ct => by
        obtain ⟨z, hz, Cz⟩ := St.join_ok_of_contr w w0 wz wd c h0 hc net.Lnk _ (fun p q h => h.symm) s t n
          bs bt cs hm is it hs ht Cs Ct
        exact ⟨fun c' hc' => Except.ok.inj (hz.symm.trans hc') ▸ Cz, fun e he => nomatch hz.symm.trans he⟩)
    with h | ⟨_, _, hE⟩
  exacts [h, hE.elim]

end NetD

section complex

/-- Euclidean power of a wave assignment on a pin list -/
noncomputable def pw (l : List PinRef) (a : PinRef → ℂ) : ℝ := (l.map fun p => ‖a p‖ ^ 2).sum

/-- `St.Contr` for the Euclidean power (`contr_iff`) -/
def Contr (c : ℝ) (s : St ℂ) : Prop := ∀ a b : PinRef → ℂ, Eqn s.pins s.sem a b → pw s.pins b ≤ c * pw s.pins a

noncomputable def nsq (z : ℂ) : ℝ := ‖z‖ ^ 2

theorem nsq_nonneg (z : ℂ) : 0 ≤ nsq z := sq_nonneg _
theorem nsq_zero : nsq 0 = 0 := by simp [nsq]
theorem nsq_definite (z : ℂ) (h : nsq z = 0) : z = 0 := by simpa [nsq] using h
theorem nsq_mul (x y : ℂ) : nsq (x * y) = nsq x * nsq y := by rw [nsq, Complex.norm_mul, mul_pow]; rfl

theorem contr_iff (c : ℝ) (s : St ℂ) : Contr c s ↔ s.Contr nsq c := Iff.rfl

noncomputable def epow {ι : Type*} [Fintype ι] (x : ι → ℂ) : ℝ := ∑ i, ‖x i‖ ^ 2

theorem St.join_ok_of_strictly_passive (c : ℝ) (h0 : 0 ≤ c) (hc : c < 1)
    (L : PinRef → PinRef → Prop) (B : Nat) (hsym : ∀ p q, L p q → L q p)
    (s t : St ℂ) (n : Nat) (bs : Solve.Book L B s) (bt : Solve.Book L B t) (cs : Solve.ConnL L s)
    (hm : ∀ k, k ∈ St.membersOf s → k ∈ St.membersOf t → False) (is : Solve.Idx s) (it : Solve.Idx t)
    (hs : s.pins.Nodup) (ht : t.pins.Nodup) (Cs : _root_.Contr c s) (Ct : _root_.Contr c t) :
    ∃ z, St.join s t n = .ok z ∧ _root_.Contr c z :=
  St.join_ok_of_contr nsq nsq_nonneg nsq_zero nsq_definite c h0 hc L B hsym s t n bs bt cs hm is it hs ht Cs Ct

/-- a well-formed, non-empty network over `ℂ` all of whose components are strictly passive (`c`-contractive with
`0 ≤ c < 1`) solves, at every size and with every valid schedule: no merge can hit a singular inner system.
It is `NetD.solveWith_ok_of_contr` at the squared norm `nsq` without the second half of its conclusion, that the solved
structure is again `c`-contractive; C20 (`C20_strictly_passive_network_solves`) states both halves. -/
theorem NetD.solveWith_ok_of_strictly_passive (net : NetD ℂ) (wf : net.WF) (hidx : net.IdxWF) (hne : net.comps ≠ [])
    (c : ℝ) (h0 : 0 ≤ c) (hc : c < 1) (hpass : ∀ s ∈ net.initial, Contr c s)
    (sched) (hv : Solve.ValidSched sched) :
    ∃ total, net.solveWith sched = .ok total := by
  obtain ⟨total, h, _⟩ :=
    NetD.solveWith_ok_of_contr nsq nsq_nonneg nsq_zero nsq_definite net wf hidx hne c h0 hc hpass sched hv
  exact ⟨total, h⟩

end complex
