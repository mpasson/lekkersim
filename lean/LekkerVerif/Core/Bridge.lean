import LekkerVerif.Core.Basic
import Mathlib.Data.Matrix.Mul
import Mathlib.Algebra.BigOperators.Fin
import Mathlib.LinearAlgebra.Matrix.NonsingularInverse

/-! The array-backed matrices of the executable model read as Mathlib matrices: `Mat.toMatrix` takes the shape as explicit
arguments (no casts), the arithmetic of `Mat` is the arithmetic of `Matrix`, and the certified inverse is an inverse. -/

instance fieldScalar (F : Type) [Field F] [DecidableEq F] : Scalar F := { default := 0 }

namespace Mat
variable {F : Type} [Field F] [DecidableEq F]

def toMatrix (A : Mat F) (r c : Nat) : Matrix (Fin r) (Fin c) F := fun i j => A.get i.1 j.1

theorem get_ofFn (r c : Nat) (f : Nat → Nat → F) (i j : Nat) (hi : i < r) (hj : j < c) :
    (ofFn r c f).get i j = f i j := by
  have h : i * c + j < r * c :=
    Nat.lt_of_lt_of_le (Nat.add_lt_add_left hj _) (Nat.succ_mul i c ▸ Nat.mul_le_mul_right c hi)
  unfold get ofFn
  simp only
  rw [getElem!_pos _ _ (by rwa [Array.size_ofFn]), Array.getElem_ofFn]
  show f ((i * c + j) / c) ((i * c + j) % c) = f i j
  rw [Nat.add_comm, Nat.add_mul_div_right _ _ (Nat.zero_lt_of_lt hj), Nat.add_mul_mod_self_right, Nat.div_eq_of_lt hj,
    Nat.mod_eq_of_lt hj, Nat.zero_add]

@[simp] theorem ofFn_r (r c : Nat) (f : Nat → Nat → F) : (ofFn r c f).r = r := rfl
@[simp] theorem ofFn_c (r c : Nat) (f : Nat → Nat → F) : (ofFn r c f).c = c := rfl

theorem toMatrix_ofFn (r c : Nat) (f : Nat → Nat → F) :
    (ofFn r c f).toMatrix r c = fun i j => f i.1 j.1 :=
  funext fun i => funext fun j => get_ofFn r c f i.1 j.1 i.2 j.2

theorem sumTo_eq (k : Nat) (f : Nat → F) : sumTo k f = ∑ l : Fin k, f l.1 := by
  unfold sumTo
  induction k with
  | zero => rfl
  | succ n ih => rw [Nat.fold_succ, Fin.sum_univ_castSucc, ih]; rfl

theorem toMatrix_mul (A B : Mat F) :
    (mul A B).toMatrix A.r B.c = A.toMatrix A.r A.c * B.toMatrix A.c B.c := by
  ext i j
  simp only [toMatrix, Matrix.mul_apply]
  unfold mul
  rw [get_ofFn _ _ _ _ _ i.2 j.2, sumTo_eq]

theorem toMatrix_one (n : Nat) : (one n : Mat F).toMatrix n n = 1 := by
  ext i j
  exact (get_ofFn _ _ _ _ _ i.2 j.2).trans (if_congr Fin.val_inj rfl rfl)

theorem eq_of_beq {A B : Mat F} (h : beq A B = true) : A = B := by
  unfold beq at h
  simp only [Bool.and_eq_true, beq_iff_eq, List.all_eq_true, List.mem_range] at h
  obtain ⟨⟨⟨hr, hc⟩, hs⟩, hd⟩ := h
  cases A with | mk r c d =>
  cases B with | mk r' c' d' =>
  simp only at hr hc hs hd
  subst hr hc
  congr
  apply Array.ext hs
  intro i h1 h2
  have := hd i h1
  rwa [getElem!_pos d i h1, getElem!_pos d' i h2] at this

/-! shape-explicit forms: all dimensions are parameters tied by equations, so no dependent rewriting is needed -/

theorem toMatrix_mul' (A B : Mat F) (r k c : Nat) (hr : A.r = r) (hk : A.c = k) (hc : B.c = c) :
    (mul A B).toMatrix r c = A.toMatrix r k * B.toMatrix k c := by
  subst hr hk hc; exact toMatrix_mul A B
theorem toMatrix_add' (A B : Mat F) (r c : Nat) (hr : A.r = r) (hc : A.c = c) :
    (add A B).toMatrix r c = A.toMatrix r c + B.toMatrix r c := by
  subst hr hc
  ext i j
  exact get_ofFn _ _ _ _ _ i.2 j.2
theorem toMatrix_sub' (A B : Mat F) (r c : Nat) (hr : A.r = r) (hc : A.c = c) :
    (sub A B).toMatrix r c = A.toMatrix r c - B.toMatrix r c := by
  subst hr hc
  ext i j
  exact get_ofFn _ _ _ _ _ i.2 j.2

theorem inv?_spec (A X : Mat F) (n : Nat) (hr : A.r = n) (hc : A.c = n) (h : inv? A = some X) :
    X.r = n ∧ X.c = n ∧ A.toMatrix n n * X.toMatrix n n = 1 ∧ X.toMatrix n n * A.toMatrix n n = 1 := by
  subst hr
  unfold inv? at h
  split at h
  · cases h
  · dsimp only at h
    split at h
    · rename_i hb
      cases h
      rw [Bool.and_eq_true] at hb
      refine ⟨rfl, rfl, ?_, ?_⟩
      · rw [← toMatrix_mul' A _ A.r A.r A.r rfl hc rfl, eq_of_beq hb.1, toMatrix_one]
      · rw [← toMatrix_mul' _ A A.r A.r A.r (ofFn_r _ _ _) (ofFn_c _ _ _) hc, eq_of_beq hb.2, toMatrix_one]
    · cases h
end Mat
