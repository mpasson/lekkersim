import LekkerVerif.Core.HierStruct
import LekkerVerif.Core.Energy

/-! A level of `HNet.solveH` takes the children's results as components, runs the elimination loop and hands up the block of
the solved structure on the exposed pins (`NetD.extract`).  The per-component properties `CompD.Recip`, `CompD.PassiveW`,
`CompD.LosslessW` go into the level by `CompD.mkSt_*` and through the loop by C08; this file carries them out of it:
the extracted component is the solved structure with zero input on the unexposed free pins (`NetD.exists_lift`), which
keeps reciprocity, keeps passivity (the outputs dropped there are non-negative terms, `NetD.extract_passive`), and keeps
losslessness when nothing is left unexposed (`NetD.extract_lossless`, `HNet.FullyExposed`).  `HNet.solveH_induct` is the
induction over the tree these steps are put into. -/

open NetD Solve

namespace NetD
variable {F : Type}

/-- what a well-formed level gives about the structure the elimination ends with -/
structure LevelFacts (net : NetD F) (total : St F) : Prop where
  wf : net.WF
  names : (net.exposed.map (·.1)).Nodup
  expNodup : (net.exposed.map (·.2)).Nodup
  expIn : ∀ e ∈ net.exposed, e.2 ∈ total.pins
  nodup : total.pins.Nodup

theorem LevelFacts.expSub {net : NetD F} {total : St F} (lf : net.LevelFacts total) :
    ∀ x ∈ net.exposed.map (·.2), x ∈ total.pins :=
  List.forall_mem_map.2 lf.expIn

theorem sum_names {M : Type*} [AddCommMonoid M] (net : NetD F) (f : String → M) (g : PinRef → M)
    (h : ∀ e ∈ net.exposed, f e.1 = g e.2) : ((net.exposed.map (·.1)).map f).sum = ((net.exposed.map (·.2)).map g).sum := by
  rw [List.map_map, List.map_map]
  exact congrArg _ (List.map_congr_left h)

variable [Field F] [DecidableEq F]

theorem extract_recip (net : NetD F) (total : St F) (lf : net.LevelFacts total) (hT : total.Recip) :
    (net.extract total).Recip := by
  intro x hx y hy
  obtain ⟨e, he, rfl⟩ := List.mem_map.1 (show x ∈ net.exposed.map (·.1) from hx)
  obtain ⟨e', he', rfl⟩ := List.mem_map.1 (show y ∈ net.exposed.map (·.1) from hy)
  rw [extract_sem net total lf.names e e' he he', extract_sem net total lf.names e' e he' he]
  exact hT _ (lf.expIn e he) _ (lf.expIn e' he')

/-- an input on the exposed names as an input on the pins of the level: the exposed pins carry the values of their names,
every other pin zero -/
theorem exists_lift (net : NetD F) (total : St F) (lf : net.LevelFacts total) (a : String → F) :
    ∃ A : PinRef → F, (∀ p, p ∉ net.exposed.map (·.2) → A p = 0) ∧
      ∀ e ∈ net.exposed, A e.2 = a e.1 ∧ total.out A e.2 = (net.extract total).out a e.1 := by
  obtain ⟨A, hA, hz⟩ := exists_extend (net.exposed.map (·.2)) lf.expNodup
    (fun i => a (net.exposed[i.1]'(i.2.trans_eq (List.length_map _))).1) (fun _ => 0)
  have hA : ∀ e ∈ net.exposed, A e.2 = a e.1 := fun e he => by
    obtain ⟨i, hi, rfl⟩ := List.getElem_of_mem he
    exact (congrArg A (List.getElem_map _).symm).trans (hA ⟨i, hi.trans_eq (List.length_map _).symm⟩)
  refine ⟨A, hz, fun e he => ⟨hA e he, ?_⟩⟩
  exact (sum_restrict total.pins (net.exposed.map (·.2)) (fun q => total.sem e.2 q * A q) lf.nodup lf.expNodup
    lf.expSub fun x _ hnx => by rw [hz x hnx, mul_zero]).trans
    (net.sum_names _ _ fun e' he' => by rw [hA e' he', extract_sem net total lf.names e e' he he']).symm

/-- passivity survives the exposure of only some free pins: zero input on the unexposed free pins, and the outputs
there are dropped — non-negative terms on the smaller side -/
theorem extract_passive {R : Type*} [AddCommGroup R] [PartialOrder R] [IsOrderedAddMonoid R] (w : F → R)
    (w0 : ∀ z, 0 ≤ w z) (wz : w 0 = 0) (net : NetD F) (total : St F) (lf : net.LevelFacts total)
    (hT : total.PassiveW w) : (net.extract total).PassiveW w := by
  intro a
  obtain ⟨A, hz, hA⟩ := exists_lift net total lf a
  have hsub : (net.exposed.map (·.2)).toFinset ⊆ total.pins.toFinset :=
    fun p hp => List.mem_toFinset.2 (lf.expSub p (List.mem_toFinset.1 hp))
  calc ((net.exposed.map (·.1)).map fun x => w ((net.extract total).out a x)).sum
      = ((net.exposed.map (·.2)).map fun p => w (total.out A p)).sum :=
        net.sum_names _ _ fun e he => by rw [(hA e he).2]
    _ = ∑ p ∈ (net.exposed.map (·.2)).toFinset, w (total.out A p) := (List.sum_toFinset _ lf.expNodup).symm
    _ ≤ ∑ p ∈ total.pins.toFinset, w (total.out A p) :=
        Finset.sum_le_sum_of_subset_of_nonneg hsub fun _ _ _ => w0 _
    _ = sumL w total.pins (total.out A) := List.sum_toFinset _ lf.nodup
    _ ≤ sumL w total.pins A := hT A
    _ = ∑ p ∈ total.pins.toFinset, w (A p) := (List.sum_toFinset _ lf.nodup).symm
    _ = ∑ p ∈ (net.exposed.map (·.2)).toFinset, w (A p) :=
        (Finset.sum_subset hsub fun p _ hp => by rw [hz p (mt List.mem_toFinset.2 hp), wz]).symm
    _ = ((net.exposed.map (·.2)).map fun p => w (A p)).sum := List.sum_toFinset _ lf.expNodup
    _ = ((net.exposed.map (·.1)).map fun x => w (a x)).sum :=
        (net.sum_names _ _ fun e he => by rw [(hA e he).1]).symm

theorem extract_lossless {R : Type*} [AddCommGroup R] (φ : F → F → R) (net : NetD F) (total : St F)
    (lf : net.LevelFacts total) (hall : ∀ p ∈ total.pins, p ∈ net.exposed.map (·.2))
    (hT : total.LosslessW φ) : (net.extract total).LosslessW φ := by
  intro a a'
  obtain ⟨A, -, hA⟩ := exists_lift net total lf a
  obtain ⟨A', -, hA'⟩ := exists_lift net total lf a'
  have hp : total.pins.Perm (net.exposed.map (·.2)) :=
    (List.perm_ext_iff_of_nodup lf.nodup lf.expNodup).2 fun p => ⟨hall p, lf.expSub p⟩
  have key := hT A A'
  rw [pairL_perm φ hp, pairL_perm φ hp] at key
  exact ((net.sum_names _ (fun p => φ (total.out A' p) (total.out A p)) fun e he => by
    rw [(hA e he).2, (hA' e he).2]).trans key).trans
    (net.sum_names _ (fun p => φ (A' p) (A p)) fun e he => by rw [(hA e he).1, (hA' e he).1]).symm

theorem total_pins_exposed (net : NetD F) (wf : net.WF) (sched) (total : St F)
    (h : net.solveWith sched = .ok total)
    (hfull : ∀ k c, net.comps[k]? = some c → ∀ x ∈ c.pins, (∀ q, ¬ net.Lnk (k, x) q) → (k, x) ∈ net.exposed.map (·.2)) :
    ∀ p ∈ total.pins, p ∈ net.exposed.map (·.2) := by
  intro p hp
  obtain ⟨_, hno⟩ := solveWith_sound net wf sched total h
  obtain ⟨s, hs, hps⟩ := loopWith_pins net.Sol (fun p => ∃ s ∈ net.initial, p ∈ s.pins) sched _ _ _ total
    (fullInv_initial net wf).linv (fun s hs p hp => ⟨s, hs, hp⟩) h p hp
  obtain ⟨c, hc, hx⟩ := (mem_initial_pins net p).1 ⟨s, hs, hps⟩
  exact hfull p.1 c hc p.2 hx (hno p hp)

end NetD

namespace HNet
variable {F : Type} [Field F] [DecidableEq F]

/-- the leaf components of a hierarchy -/
def leafComps (h : HNet F) : List (CompD F) := (leaves h).map (·.2)

/-- induction along the recursive solve: a property of components that holds of every leaf and is handed from the
children's results to the result of a level holds of the result of the whole recursion.  `G` is whatever has to be known
about the description at every node (well-formedness, ...). -/
theorem solveH_induct (sched : List (St F) → Option (Nat × Nat)) (P : CompD F → Prop) (G : HNet F → Prop)
    (hchild : ∀ cs links exposed, G (.node cs links exposed) → ∀ h ∈ cs, G h)
    (hlevel : ∀ cs links exposed comps total, G (.node cs links exposed) →
      List.Forall₂ (fun h c => solveH sched h = .ok c) cs comps → (∀ c ∈ comps, P c) →
      (levelNet comps links exposed).solveWith sched = .ok total → P ((levelNet comps links exposed).extract total)) :
    ∀ h, G h → (∀ c ∈ leafComps h, P c) → ∀ c, solveH sched h = .ok c → P c := by
  intro h
  induction h using HNet.induction with
  | leaf c0 =>
    intro _ hl c hs
    rw [solveH_leaf] at hs
    cases hs
    exact hl c0 (by rw [leafComps, leaves_leaf]; exact List.mem_singleton.2 rfl)
  | node cs links exposed ih =>
    intro g hl c hs
    obtain ⟨comps, total, hF, ht, rfl⟩ := solveH_node_inv sched cs links exposed c hs
    refine hlevel cs links exposed comps total g hF ?_ ht
    intro c hc
    obtain ⟨i, hi⟩ := List.getElem?_of_mem hc
    obtain ⟨h, hk, hsol⟩ := hF.of_getElem?_right hi
    have hh := List.mem_of_getElem? hk
    refine ih h hh (hchild _ _ _ g h hh) (fun c' hc' => ?_) c hsol
    obtain ⟨pc, hpc, rfl⟩ := List.mem_map.1 hc'
    exact hl _ (List.mem_map.2 ⟨_, mem_leaves_node.2 ⟨i, h, pc, hk, hpc, rfl⟩, rfl⟩)

theorem WFTree.levelFacts {cs : List (HNet F)} {links : List (PinRef × PinRef)} {exposed : List (String × PinRef)}
    (w : WFTree (.node cs links exposed)) (sched) (comps : List (CompD F)) (total : St F)
    (hF : List.Forall₂ (fun h c => solveH sched h = .ok c) cs comps)
    (ht : (levelNet comps links exposed).solveWith sched = .ok total) :
    (levelNet comps links exposed).LevelFacts total := by
  obtain ⟨wf, ex, hn⟩ := w.level_wf hF
  exact ⟨wf, hn, ex.nodup, solveWith_exposed_mem _ wf sched total ht ex.free, solveWith_nodup _ wf sched total ht⟩

/-- every level exposes all its free pins: every pin of every child that is not an end of a link of the level is exposed -/
inductive FullyExposed : HNet F → Prop
  | leaf (c : CompD F) : FullyExposed (.leaf c)
  | node (cs : List (HNet F)) (links : List (PinRef × PinRef)) (exposed : List (String × PinRef)) :
      (∀ h ∈ cs, FullyExposed h) →
      (∀ k ps, (cs.map pinNames)[k]? = some ps → ∀ x ∈ ps,
        (∀ l ∈ links, (k, x) ≠ l.1 ∧ (k, x) ≠ l.2) → (k, x) ∈ exposed.map (·.2)) →
      FullyExposed (.node cs links exposed)

end HNet
