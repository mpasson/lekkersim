import LekkerVerif.Core.HierSolve
import LekkerVerif.Model.Split
/-! `Solver.split()` on one level of a hierarchical circuit (executable, core Lean only).

`split()` works on the solver's own level: the children (components or sub-solvers) stay what they are, the level is cut
into the sets of children the union loop (`Split.components`, Model/Split.lean) builds from the links of the level, and
every set becomes a solver of its own with the links that run inside the set and the exposures that point into it.

* `HNet.adjOf links i` — the neighbours of child position `i`: the other ends of the links that touch child `i`;
* `HNet.groups n links` — the sets `split()` builds for a level of `n` children (as the union loop leaves them: lists that
  may name a position more than once);
* `HNet.positions n g` — the positions of a set in increasing order, each once;
* `HNet.subLevel cs links exposed g` — the sub-solver of the set `g`: the children at `positions cs.length g` (increasing
  position order), the links both of whose ends lie in `g`, the exposures whose pin lies in `g`; a pin reference
  `(i, name)` is re-addressed as (position of `i` inside `positions cs.length g`, name);
* `HNet.splitLevel` — the sub-solver of every set (a component is returned as it is). -/

namespace HNet
variable {F : Type}

/-- the children linked to child `i`, one entry per link end that touches `i` -/
def adjOf (links : List (PinRef × PinRef)) (i : Nat) : List Nat :=
  links.flatMap fun l => (if l.1.1 = i then [l.2.1] else []) ++ (if l.2.1 = i then [l.1.1] else [])

/-- the sets of child positions `Solver.split()` builds on a level of `n` children -/
def groups (n : Nat) (links : List (PinRef × PinRef)) : List (List Nat) :=
  Split.components (List.range n) (adjOf links)

/-- the positions (below `n`) a set names, increasing, each once -/
def positions (n : Nat) (g : List Nat) : List Nat := (List.range n).filter fun i => g.contains i

/-- a pin reference re-addressed by the position of its child inside the sub-list `ps` -/
def reindex (ps : List Nat) (r : PinRef) : PinRef := (ps.idxOf r.1, r.2)

/-- the sub-solver for the set `g` of child positions -/
def subLevel (cs : List (HNet F)) (links : List (PinRef × PinRef)) (exposed : List (String × PinRef))
    (g : List Nat) : HNet F :=
  let ps := positions cs.length g
  .node (ps.map fun i => cs.getD i (.node [] [] []))
    ((links.filter fun l => g.contains l.1.1 && g.contains l.2.1).map fun l => (reindex ps l.1, reindex ps l.2))
    ((exposed.filter fun e => g.contains e.2.1).map fun e => (e.1, reindex ps e.2))

/-- `Solver.split()` on the top level of a circuit: one sub-solver per connected set of children -/
def splitLevel : HNet F → List (HNet F)
  | .leaf c => [.leaf c]
  | .node cs links exposed => (groups cs.length links).map (subLevel cs links exposed)

/-! Sanity check: a level of three children, the first two linked.  The union loop returns the sets `[1, 0, 0, 1]` and
`[2]`; the sub-solvers are the chain of the first two children (link and exposures kept) and the third child alone, its
exposure re-addressed to position 0. -/

example : groups 3 [((0, "b"), (1, "a"))] = [[1, 0, 0, 1], [2]] := by decide

example (a b c : CompD F) :
    splitLevel (.node [.leaf a, .leaf b, .leaf c] [((0, "b"), (1, "a"))]
      [("in", (0, "a")), ("x", (2, "a")), ("out", (1, "b"))]) =
    [.node [.leaf a, .leaf b] [((0, "b"), (1, "a"))] [("in", (0, "a")), ("out", (1, "b"))],
     .node [.leaf c] [] [("x", (0, "a"))]] := by
  -- in stages (the sets of the union loop, the positions, then the rest): a plain `rfl` makes the elaborator unfold
  -- `groups` on open terms, which is slow to check
  simp only [splitLevel, List.length_cons, List.length_nil, Nat.zero_add, Nat.reduceAdd, List.map, subLevel,
    show groups 3 [((0, "b"), (1, "a"))] = [[1, 0, 0, 1], [2]] by decide,
    show positions 3 [1, 0, 0, 1] = [0, 1] by decide, show positions 3 [2] = [2] by decide]
  rfl

end HNet
