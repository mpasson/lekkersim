import LekkerVerif.Core.Disjoint
import LekkerVerif.Core.NetMap

/-! A circuit assembled from mode-expanded blocks wired mode by mode is a bundle of independent copies of the
single-mode circuit, for any duplicate-free list of modes (C13, network level).

`bundle N ms` puts the single-mode circuit `N` side by side once per mode; `expandedL N ms` is what the code builds (every
block *one* part on the pins of all modes, with the block-diagonal matrix of `expand_mode`).  The solutions of the bundle
are exactly the families of solutions of `N`, one per mode (`bundle_sol`), and a block-diagonal row only sees the pins of
its own mode (`rowSum_diag_flatMap`), so `expandedL N ms` has the same solutions (`expandedL_sol`); hence the block-diagonal
operator solves both, and by uniqueness every operator that solves them is block-diagonal on the exposed pins
(`diag_of_solvedBy`).  Two modes (`expanded2`) are the list `[m₁, m₂]`. -/

variable {F : Type*} [Field F]
variable {P : Type*} [DecidableEq P] {M : Type*} [DecidableEq M]

namespace ANet

/-- the single-mode network `N` carried by mode `m`: pins `(p, m)` -/
def atMode (N : ANet P F) (m : M) : ANet (P × M) F :=
  { parts := N.parts.map fun pt => (pt.1.map fun p => (p, m), fun x y => pt.2 x.1 y.1),
    links := N.links.map fun l => ((l.1, m), (l.2, m)),
    exposed := N.exposed.map fun p => (p, m) }

/-- links and exposed pins of a network belong to its parts -/
structure Closed (N : ANet P F) : Prop where
  links : ∀ l ∈ N.links, N.pinSet l.1 ∧ N.pinSet l.2
  exposed : ∀ e ∈ N.exposed, N.pinSet e

theorem rowSum_atMode (pins : List P) (S : P → P → F) (m : M) (a : P × M → F) (p : P) :
    rowSum (pins.map fun q => (q, m)) (fun x y => S x.1 y.1) a (p, m) = rowSum pins S (fun q => a (q, m)) p :=
  rowSum_map _ pins _ a (p, m)

theorem mem_map_pair (l : List P) (m : M) (x : P × M) : (x ∈ l.map fun p => (p, m)) ↔ (x.2 = m ∧ x.1 ∈ l) := by
  constructor
  · rintro hx
    obtain ⟨p, hp, rfl⟩ := List.mem_map.1 hx
    exact ⟨rfl, hp⟩
  · rintro ⟨rfl, hp⟩
    exact List.mem_map.2 ⟨x.1, hp, rfl⟩

/-- the single-mode circuit carried by every mode of the list, side by side -/
def bundle (N : ANet P F) : List M → ANet (P × M) F
  | [] => ⟨[], [], []⟩
  | m :: ms => union (N.atMode m) (bundle N ms)

theorem bundle_nil (N : ANet P F) : bundle N ([] : List M) = ⟨[], [], []⟩ := rfl

/-- block-diagonal operator: the single-mode coefficient between like modes, zero between different modes -/
def diagOp (T : P → P → F) (x y : P × M) : F := if x.2 = y.2 then T x.1 y.1 else 0

/-- the circuit the code builds from mode-expanded blocks: every block is *one* part on the pins of all modes with the
block-diagonal matrix of `expand_mode`, and `connect_all` links like modes -/
def expandedL (N : ANet P F) (ms : List M) : ANet (P × M) F :=
  { parts := N.parts.map fun pt => (ms.flatMap (fun m => pt.1.map fun p => (p, m)),
                                     fun x y => if x.2 = y.2 then pt.2 x.1 y.1 else 0),
    links := (bundle N ms).links,
    exposed := (bundle N ms).exposed }

theorem bundle_eq (N : ANet P F) (ms : List M) :
    bundle N ms = ⟨ms.flatMap fun m => (N.atMode m).parts, ms.flatMap fun m => (N.atMode m).links,
      ms.flatMap fun m => (N.atMode m).exposed⟩ := by
  induction ms with
  | nil => rfl
  | cons m ms ih => show union (N.atMode m) (bundle N ms) = _; rw [ih]; rfl

theorem mem_bundle_parts (N : ANet P F) (ms : List M) (part : List (P × M) × (P × M → P × M → F)) :
    part ∈ (bundle N ms).parts ↔
      ∃ m ∈ ms, ∃ pt ∈ N.parts, part = (pt.1.map fun p => (p, m), fun x y => pt.2 x.1 y.1) := by
  rw [bundle_eq]
  simp only [List.mem_flatMap, atMode, List.mem_map, @eq_comm _ part]

theorem mem_bundle_links (N : ANet P F) (ms : List M) (l : (P × M) × (P × M)) :
    l ∈ (bundle N ms).links ↔ ∃ m ∈ ms, ∃ l0 ∈ N.links, l = ((l0.1, m), (l0.2, m)) := by
  rw [bundle_eq]
  simp only [List.mem_flatMap, atMode, List.mem_map, @eq_comm _ l]

theorem mem_bundle_exposed (N : ANet P F) (ms : List M) (e : P × M) :
    e ∈ (bundle N ms).exposed ↔ (e.2 ∈ ms ∧ e.1 ∈ N.exposed) := by
  rw [bundle_eq]
  simp only [List.mem_flatMap, atMode, mem_map_pair]
  constructor
  · rintro ⟨m, hm, e2, e1⟩
    exact ⟨e2 ▸ hm, e1⟩
  · exact fun h => ⟨e.2, h.1, rfl, h.2⟩

theorem bundle_lnk (N : ANet P F) (ms : List M) (p : P) (m : M) (y : P × M) :
    (bundle N ms).Lnk (p, m) y ↔ (m ∈ ms ∧ y.2 = m ∧ N.Lnk p y.1) := by
  unfold Lnk
  rw [mem_bundle_links, mem_bundle_links]
  constructor
  · rintro (⟨m', hm', l, hl, e⟩ | ⟨m', hm', l, hl, e⟩)
    · obtain ⟨⟨rfl, rfl⟩, rfl⟩ := Prod.mk.inj e |>.imp Prod.mk.inj id
      exact ⟨hm', rfl, Or.inl hl⟩
    · obtain ⟨rfl, ⟨rfl, rfl⟩⟩ := Prod.mk.inj e |>.imp id Prod.mk.inj
      exact ⟨hm', rfl, Or.inr hl⟩
  · rintro ⟨hm, rfl, h | h⟩
    · exact Or.inl ⟨_, hm, _, h, rfl⟩
    · exact Or.inr ⟨_, hm, _, h, rfl⟩

theorem bundle_sol (N : ANet P F) (ms : List M) (a b : P × M → F) :
    (bundle N ms).Sol a b ↔ ∀ m ∈ ms, N.Sol (fun p => a (p, m)) (fun p => b (p, m)) := by
  constructor
  · intro h m hm
    have part : ∀ pt ∈ N.parts, (pt.1.map fun p => (p, m), fun x y : P × M => pt.2 x.1 y.1) ∈ (bundle N ms).parts :=
      fun pt hpt => (mem_bundle_parts N ms _).2 ⟨m, hm, pt, hpt, rfl⟩
    refine ⟨?_, ?_, ?_⟩
    · intro pt hpt p hp
      have := h.comp _ (part pt hpt) (p, m) (List.mem_map.2 ⟨p, hp, rfl⟩)
      rwa [rowSum_atMode] at this
    · intro l hl
      exact h.link ((l.1, m), (l.2, m)) ((mem_bundle_links N ms _).2 ⟨m, hm, l, hl, rfl⟩)
    · intro pt hpt p hp hfree hne
      exact h.free _ (part pt hpt) (p, m) (List.mem_map.2 ⟨p, hp, rfl⟩)
        (fun y hy => hfree y.1 ((bundle_lnk N ms p m y).1 hy).2.2)
        (fun he => hne ((mem_bundle_exposed N ms _).1 he).2)
  · intro h
    refine ⟨?_, ?_, ?_⟩
    · intro part hpart x hx
      obtain ⟨m, hm, pt, hpt, rfl⟩ := (mem_bundle_parts N ms part).1 hpart
      obtain ⟨p, hp, rfl⟩ := List.mem_map.1 hx
      show b (p, m) = _
      rw [rowSum_atMode]
      exact (h m hm).comp pt hpt p hp
    · intro l hl
      obtain ⟨m, hm, l0, hl0, rfl⟩ := (mem_bundle_links N ms l).1 hl
      exact (h m hm).link l0 hl0
    · intro part hpart x hx hfree hne
      obtain ⟨m, hm, pt, hpt, rfl⟩ := (mem_bundle_parts N ms part).1 hpart
      obtain ⟨p, hp, rfl⟩ := List.mem_map.1 hx
      exact (h m hm).free pt hpt p hp (fun q hq => hfree (q, m) ((bundle_lnk N ms p m _).2 ⟨hm, rfl, hq⟩))
        (fun he => hne ((mem_bundle_exposed N ms _).2 ⟨hm, he⟩))

theorem rowSum_diag_flatMap (pins : List P) (S : P → P → F) (ms : List M) (hms : ms.Nodup) (m : M) (hm : m ∈ ms)
    (a : P × M → F) (p : P) :
    rowSum (ms.flatMap fun m' => pins.map fun q => (q, m')) (fun x y => if x.2 = y.2 then S x.1 y.1 else 0) a (p, m)
      = rowSum (pins.map fun q => (q, m)) (fun x y => S x.1 y.1) a (p, m) := by
  -- bring the block of `m` to the front: on it the matrix is `S`, and the pins of the other modes contribute nothing
  rw [rowSum_perm ((List.perm_cons_erase hm).flatMap_right _), List.flatMap_cons, rowSum_append]
  have other : rowSum ((ms.erase m).flatMap fun m' => pins.map fun q => (q, m'))
      (fun x y => if x.2 = y.2 then S x.1 y.1 else 0) a (p, m) = 0 := by
    refine rowSum_zero _ _ _ _ fun x hx => ?_
    obtain ⟨m', hm', hx'⟩ := List.mem_flatMap.1 hx
    obtain ⟨q, _, rfl⟩ := List.mem_map.1 hx'
    exact .inl (if_neg fun e : m = m' => hms.not_mem_erase (e ▸ hm'))
  rw [other, add_zero]
  exact rowSum_congrS _ _ _ a (p, m) fun x hx => by
    obtain ⟨q, _, rfl⟩ := List.mem_map.1 hx
    exact if_pos rfl

theorem bundle_solvedBy (N : ANet P F) (T : P → P → F) (h : N.SolvedBy T) (ms : List M) (hms : ms.Nodup) :
    (bundle N ms).SolvedBy (diagOp T) := by
  constructor
  · intro a b hs e he
    obtain ⟨hm, hp⟩ := (mem_bundle_exposed N ms e).1 he
    rw [bundle_eq]
    exact (h.1 _ _ ((bundle_sol N ms a b).1 hs e.2 hm) e.1 hp).trans
      ((rowSum_diag_flatMap N.exposed T ms hms e.2 hm a e.1).trans (rowSum_atMode N.exposed T e.2 a e.1)).symm
  · intro v
    choose A B hAB hv using fun m => h.2 fun p => v (p, m)
    exact ⟨fun x => A x.2 x.1, fun x => B x.2 x.1, (bundle_sol N ms _ _).2 fun m _ => hAB m,
      fun e he => hv e.2 e.1 ((mem_bundle_exposed N ms e).1 he).2⟩

theorem expandedL_sol (N : ANet P F) (ms : List M) (hms : ms.Nodup) (a b : P × M → F) :
    (N.expandedL ms).Sol a b ↔ (bundle N ms).Sol a b := by
  constructor
  · intro h
    refine ⟨?_, h.link, ?_⟩
    · intro part hpart x hx
      obtain ⟨m, hm, pt, hpt, rfl⟩ := (mem_bundle_parts N ms part).1 hpart
      obtain ⟨p, hp, rfl⟩ := List.mem_map.1 hx
      exact (h.comp _ (List.mem_map.2 ⟨pt, hpt, rfl⟩) (p, m) (List.mem_flatMap.2 ⟨m, hm, hx⟩)).trans
        (rowSum_diag_flatMap pt.1 pt.2 ms hms m hm a p)
    · intro part hpart x hx hfree hne
      obtain ⟨m, hm, pt, hpt, rfl⟩ := (mem_bundle_parts N ms part).1 hpart
      exact h.free _ (List.mem_map.2 ⟨pt, hpt, rfl⟩) x (List.mem_flatMap.2 ⟨m, hm, hx⟩) hfree hne
  · intro h
    refine ⟨?_, h.link, ?_⟩
    · intro part hpart x hx
      obtain ⟨pt, hpt, rfl⟩ := List.mem_map.1 hpart
      obtain ⟨m, hm, hx'⟩ := List.mem_flatMap.1 hx
      obtain ⟨p, hp, rfl⟩ := List.mem_map.1 hx'
      exact (h.comp _ ((mem_bundle_parts N ms _).2 ⟨m, hm, pt, hpt, rfl⟩) (p, m) hx').trans
        (rowSum_diag_flatMap pt.1 pt.2 ms hms m hm a p).symm
    · intro part hpart x hx hfree hne
      obtain ⟨pt, hpt, rfl⟩ := List.mem_map.1 hpart
      obtain ⟨m, hm, hx'⟩ := List.mem_flatMap.1 hx
      exact h.free _ ((mem_bundle_parts N ms _).2 ⟨m, hm, pt, hpt, rfl⟩) x hx' hfree hne

theorem expandedL_pinSet (N : ANet P F) (ms : List M) (x : P × M) :
    (N.expandedL ms).pinSet x ↔ (bundle N ms).pinSet x := by
  constructor
  · rintro ⟨part, hpart, hx⟩
    obtain ⟨pt, hpt, rfl⟩ := List.mem_map.1 hpart
    obtain ⟨m, hm, hx'⟩ := List.mem_flatMap.1 hx
    exact ⟨_, (mem_bundle_parts N ms _).2 ⟨m, hm, pt, hpt, rfl⟩, hx'⟩
  · rintro ⟨part, hpart, hx⟩
    obtain ⟨m, hm, pt, hpt, rfl⟩ := (mem_bundle_parts N ms part).1 hpart
    exact ⟨_, List.mem_map.2 ⟨pt, hpt, rfl⟩, List.mem_flatMap.2 ⟨m, hm, hx⟩⟩

theorem expandedL_lnk (N : ANet P F) (ms : List M) (x y : P × M) :
    (N.expandedL ms).Lnk x y ↔ (bundle N ms).Lnk x y := Iff.rfl

theorem expandedL_exposed (N : ANet P F) (ms : List M) : (N.expandedL ms).exposed = (bundle N ms).exposed := rfl

theorem expandedL_links (N : ANet P F) (ms : List M) : (N.expandedL ms).links = (bundle N ms).links := rfl

theorem expandedL_solved (N : ANet P F) (T : P → P → F) (h : N.SolvedBy T) (ms : List M) (hms : ms.Nodup) :
    (N.expandedL ms).SolvedBy (diagOp T) :=
  (bundle_solvedBy N T h ms hms).of_sol_iff (expandedL_sol N ms hms) (.refl _)

theorem diag_of_solvedBy (N : ANet P F) (hn : N.exposed.Nodup) (T : P → P → F) (h : N.SolvedBy T) (ms : List M)
    (hms : ms.Nodup) (N' : ANet (P × M) F) (hs : ∀ a b, N'.Sol a b ↔ (bundle N ms).Sol a b)
    (he : N'.exposed = (bundle N ms).exposed) (Tm : P × M → P × M → F) (hT : N'.SolvedBy Tm) :
    ∀ m ∈ ms, ∀ m' ∈ ms, ∀ p ∈ N.exposed, ∀ q ∈ N.exposed, Tm (p, m) (q, m') = if m = m' then T p q else 0 := by
  intro m hm m' hm' p hp q hq
  have hd : N'.SolvedBy (diagOp T) := (bundle_solvedBy N T h ms hms).of_sol_iff hs (he ▸ .refl _)
  have hnd : N'.exposed.Nodup := by
    rw [he, bundle_eq]
    refine List.nodup_flatMap.2 ⟨fun m _ => hn.map fun _ _ e => (Prod.mk.inj e).1, hms.imp fun {m m'} hne x hx hx' => ?_⟩
    exact hne (((mem_map_pair _ m x).1 hx).1.symm.trans ((mem_map_pair _ m' x).1 hx').1)
  exact solvedBy_unique N' hnd Tm _ hT hd _
    (he ▸ (mem_bundle_exposed N ms (p, m)).2 ⟨hm, hp⟩) _ (he ▸ (mem_bundle_exposed N ms (q, m')).2 ⟨hm', hq⟩)

theorem bundle_independent (N : ANet P F) (cl : N.Closed) (hn : N.exposed.Nodup) (T : P → P → F)
    (h : N.SolvedBy T) (ms : List M) (hms : ms.Nodup) (Tm : P × M → P × M → F)
    (hT : (bundle N ms).SolvedBy Tm) :
    ∀ m ∈ ms, ∀ m' ∈ ms, ∀ p ∈ N.exposed, ∀ q ∈ N.exposed,
      Tm (p, m) (q, m') = if m = m' then T p q else 0 :=
  diag_of_solvedBy N hn T h ms hms _ (fun _ _ => Iff.rfl) rfl Tm hT

theorem expandedL_independent (N : ANet P F) (hn : N.exposed.Nodup) (T : P → P → F) (h : N.SolvedBy T) (ms : List M)
    (hms : ms.Nodup) (Tm : P × M → P × M → F) (hT : (N.expandedL ms).SolvedBy Tm) :
    ∀ m ∈ ms, ∀ m' ∈ ms, ∀ p ∈ N.exposed, ∀ q ∈ N.exposed, Tm (p, m) (q, m') = if m = m' then T p q else 0 :=
  diag_of_solvedBy N hn T h ms hms _ (expandedL_sol N ms hms) rfl Tm hT

theorem atMode_eq_map (N : ANet P F) (m : M) : N.atMode m = N.map (·, m) Prod.fst := rfl

theorem atMode_pinSet (N : ANet P F) (m : M) (x : P × M) : (N.atMode m).pinSet x ↔ (x.2 = m ∧ N.pinSet x.1) := by
  rw [atMode_eq_map, pinSet_map]
  constructor
  · rintro ⟨p, hp, rfl⟩
    exact ⟨rfl, hp⟩
  · exact fun h => ⟨x.1, h.2, h.1 ▸ rfl⟩

/-- the two-mode circuit as the code builds it: every block is *one* part on the pins of both modes with the
block-diagonal matrix of `expand_mode` (`C13_expand`), and `connect_all` links like modes -/
def expanded2 (N : ANet P F) (m₁ m₂ : M) : ANet (P × M) F :=
  { parts := N.parts.map fun pt => ((pt.1.map fun p => (p, m₁)) ++ (pt.1.map fun p => (p, m₂)),
                                     fun x y => if x.2 = y.2 then pt.2 x.1 y.1 else 0),
    links := (N.atMode m₁).links ++ (N.atMode m₂).links,
    exposed := (N.atMode m₁).exposed ++ (N.atMode m₂).exposed }

theorem expanded2_eq (N : ANet P F) (m₁ m₂ : M) : N.expanded2 m₁ m₂ = N.expandedL [m₁, m₂] := by
  simp only [expanded2, expandedL, bundle, union, List.flatMap_cons, List.flatMap_nil, List.append_nil]

/-- a single one-pin part with reflection `r`, its pin exposed -/
def reflector (r : F) : ANet Unit F := ⟨[([()], fun _ _ => r)], [], [()]⟩

theorem reflector_closed (r : F) : (reflector r).Closed :=
  ⟨fun _ hl => (List.not_mem_nil hl).elim, fun _ _ => ⟨_, List.mem_singleton.2 rfl, List.mem_singleton.2 rfl⟩⟩

theorem reflector_solvedBy (r : F) : (reflector r).SolvedBy (fun _ _ => r) := by
  refine ⟨fun a b hs e he => hs.comp _ (List.mem_singleton.2 rfl) e he, fun v => ?_⟩
  refine ⟨v, fun _ => r * v (), ⟨?_, fun _ hl => (List.not_mem_nil hl).elim, ?_⟩, fun _ _ => rfl⟩
  · intro part hpart p _
    rw [List.mem_singleton.1 hpart]
    show r * v () = rowSum [()] (fun _ _ => r) v p
    simp [rowSum]
  · intro part _ p _ _ hne
    exact absurd (List.mem_singleton.2 rfl : p ∈ (reflector r).exposed) hne

/-- the hypotheses of the main theorems are satisfiable, with three modes -/
example (r : F) :
    ((reflector r).expandedL [(0 : Fin 3), 1, 2]).SolvedBy (diagOp fun _ _ => r) :=
  expandedL_solved (reflector r) _ (reflector_solvedBy r) _ (by decide)

example (r : F) (Tm : Unit × Fin 3 → Unit × Fin 3 → F)
    (hT : ((reflector r).expandedL [(0 : Fin 3), 1, 2]).SolvedBy Tm) :
    Tm ((), 0) ((), 0) = r ∧ Tm ((), 0) ((), 2) = 0 := by
  have k := expandedL_independent (reflector r) (by simp [reflector]) _ (reflector_solvedBy r) [(0 : Fin 3), 1, 2] (by decide)
    Tm hT
  have m0 : (0 : Fin 3) ∈ [(0 : Fin 3), 1, 2] := List.mem_cons_self
  have m2 : (2 : Fin 3) ∈ [(0 : Fin 3), 1, 2] := List.mem_cons_of_mem _ (List.mem_cons_of_mem _ List.mem_cons_self)
  have u : () ∈ (reflector r).exposed := List.mem_cons.2 (Or.inl rfl)
  constructor
  · rw [k 0 m0 0 m0 () u () u]; exact if_pos rfl
  · rw [k 0 m0 2 m2 () u () u]; exact if_neg (by decide)

end ANet
