import LekkerVerif.Core.HierPruneSpec

/-! C19, any depth: the criterion `Solver.prune()` itself uses, and why it is safe.  `Solver.prune()` (sol.py) does not look at
what a sub-solver exposes: it removes a component whose model has no pins (`Model.is_empty`) and a sub-solver whose own
`prune()` returned `True`, that is one **all** of whose children went, all the way down.  `HNet.emptyRec`
(Core/HierPrune.lean, core Lean only, so the driver runs it) is that return value on the executable hierarchy, while
`HNet.pruneLevel` drops the children that present no pin name to the level (`HNet.isDead`).  On a well-formed hierarchy of any
depth and branching, what the code removes presents no pin to its parent (`HNet.emptyRec_isDead`), so no link can end on it
and no exposure can point at it; every live child is kept and no link of the level leaves the kept set
(`HNet.keepSet_closed`), so the level the code keeps exposes the same names and returns the same coefficient between every
two (`HNet.subLevel_preserves`; `C19_kept_level_behaves`). -/

namespace HNet
variable {F : Type}

theorem emptyAll_iff (cs : List (HNet F)) : emptyAll cs = true ↔ ∀ h ∈ cs, emptyRec h = true := by
  induction cs with
  | nil => exact iff_of_true rfl (fun _ h => nomatch h)
  | cons h t ih => rw [emptyAll, Bool.and_eq_true, ih, List.forall_mem_cons]

theorem mem_keepSet (cs : List (HNet F)) (i : Nat) : i ∈ keepSet cs ↔ ∃ h, cs[i]? = some h ∧ emptyRec h = false := by
  simpa only [keepSet, Bool.not_eq_true'] using mem_filter_range_getD cs (fun h => !h.emptyRec) (.node [] [] []) i

/-- what `prune()` removes presents no pin to its parent, at any depth -/
theorem emptyRec_isDead {h : HNet F} (w : WFTree h) (he : emptyRec h = true) : isDead h = true := by
  induction w with
  | leaf c => simpa [emptyRec, isDead] using he
  | node cs links exposed _ lev ih =>
    have hall : ∀ h ∈ cs, emptyRec h = true := (emptyAll_iff cs).1 (by simpa [emptyRec] using he)
    show exposed.isEmpty = true
    rw [List.isEmpty_iff]
    -- an exposure would point at a pin of a child, and no child presents one
    refine List.eq_nil_iff_forall_not_mem.2 fun e hmem => ?_
    obtain ⟨h0, hk, hx⟩ := lev.wired.expOk e hmem
    have hin := List.mem_of_getElem? hk
    rw [(isDead_iff h0).1 (ih h0 hin (hall h0 hin))] at hx
    cases hx

theorem liveSet_sub_keepSet {cs : List (HNet F)} (hch : ∀ h ∈ cs, WFTree h) (i : Nat) (hi : i ∈ liveSet cs) :
    i ∈ keepSet cs := by
  obtain ⟨h, hk, hd⟩ := (mem_liveSet cs i).1 hi
  refine (mem_keepSet cs i).2 ⟨h, hk, Bool.eq_false_iff.2 fun he => ?_⟩
  rw [emptyRec_isDead (hch h (List.mem_of_getElem? hk)) he] at hd
  cases hd

theorem keepSet_closed {cs : List (HNet F)} {links : List (PinRef × PinRef)} {exposed : List (String × PinRef)}
    (hch : ∀ h ∈ cs, WFTree h) (lev : LevelOK (cs.map pinNames) links exposed) (l : PinRef × PinRef) (hl : l ∈ links) :
    l.1.1 ∈ keepSet cs ↔ l.2.1 ∈ keepSet cs :=
  ⟨fun _ => liveSet_sub_keepSet hch _ (liveSet_links lev l hl).2,
   fun _ => liveSet_sub_keepSet hch _ (liveSet_links lev l hl).1⟩

/-! Sanity check: a sub-solver that exposes nothing but still holds a component with pins is dead for its parent and yet
not empty for the code (it stays); a sub-solver of pin-less components is both. -/

example (a d : CompD F) (ha : a.pins = ["a", "b"]) (hd : d.pins = []) :
    isDead (.node [.leaf a] [] [] : HNet F) = true ∧ emptyRec (.node [.leaf a] [] [] : HNet F) = false ∧
    emptyRec (.node [.leaf d, .node [.leaf d] [] []] [] [] : HNet F) = true := by
  simp [isDead, emptyRec, emptyAll, ha, hd]

/-- non-vacuity: of the children of the level that `Core/HierPrune.lean` evaluates and an example of
`Properties/C19Hier.lean` shows well formed (two chained two-ports, between them a sub-solver that exposes nothing but holds a
component, last a component without pins) the code keeps the sub-solver too (`keepSet` = 0, 1, 2) while only 0 and 2 present
pins (`liveSet`) -/
example (a c d : CompD F) (ha : a.pins = ["a", "b"]) (hc : c.pins = ["a", "b"]) (hd : d.pins = []) :
    keepSet [.leaf a, .node [.leaf a] [] [], .leaf c, .leaf d] = [0, 1, 2] ∧
    liveSet [.leaf a, .node [.leaf a] [] [], .leaf c, .leaf d] = [0, 2] := by
  simp only [keepSet, liveSet, List.length_cons, List.length_nil, Nat.zero_add, Nat.reduceAdd, List.range, List.range.loop,
    List.filter, List.getD_cons_zero, List.getD_cons_succ, isDead, emptyRec, emptyAll, ha, hc, hd, List.isEmpty_cons,
    List.isEmpty_nil, Bool.not_false, Bool.not_true, Bool.and_true, and_self]

end HNet
