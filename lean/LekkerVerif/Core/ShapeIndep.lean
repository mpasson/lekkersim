import LekkerVerif.Core.SolveSpec
import Mathlib.Data.List.TakeDrop

/-! Shape independence: the bookkeeping of `St.join` and of the elimination loops does not depend on
the matrix values (`S`).  This is what justifies running one control flow for a whole parameter sweep. -/

variable {F : Type}

namespace ShapeIndep
variable {α β : Type} {R : α → β → Prop} {p : α → Bool} {q : β → Bool}

theorem rel_filter' (hpq : ∀ a b, R a b → p a = q b) {l : List α} {l' : List β} (h : List.Forall₂ R l l') :
    List.Forall₂ R (l.filter p) (l'.filter q) :=
  List.rel_filter (fun a b hab => iff_of_eq (congrArg (· = true) (hpq a b hab))) h

theorem rel_find? (hpq : ∀ a b, R a b → p a = q b) {l : List α} {l' : List β} (h : List.Forall₂ R l l') :
    Option.Rel R (l.find? p) (l'.find? q) := by
  induction h with
  | nil => exact .none
  | @cons a b _ _ hab _ ih =>
    rw [List.find?_cons, List.find?_cons, hpq a b hab]
    split
    · exact .some hab
    · exact ih

theorem rel_span (hpq : ∀ a b, R a b → p a = q b) {l : List α} {l' : List β} (h : List.Forall₂ R l l') :
    List.Forall₂ R (l.span p).1 (l'.span q).1 ∧ List.Forall₂ R (l.span p).2 (l'.span q).2 := by
  rw [List.span_eq_takeWhile_dropWhile, List.span_eq_takeWhile_dropWhile]
  induction h with
  | nil => exact ⟨.nil, .nil⟩
  | @cons a b _ _ hab hrest ih =>
    rw [List.takeWhile_cons, List.takeWhile_cons, List.dropWhile_cons, List.dropWhile_cons, hpq a b hab]
    split
    · exact ⟨.cons hab ih.1, ih.2⟩
    · exact ⟨.nil, .cons hab hrest⟩

end ShapeIndep

open ShapeIndep

/-- two structures that differ at most in their matrix `S` -/
def St.SameShape (a b : St F) : Prop :=
  a.id = b.id ∧ a.pins = b.pins ∧ a.idx = b.idx ∧ a.conn = b.conn ∧ a.connTo = b.connTo ∧
    a.members = b.members

theorem St.SameShape.refl (a : St F) : a.SameShape a := ⟨rfl, rfl, rfl, rfl, rfl, rfl⟩

theorem St.SameShape.id_eq {a b : St F} (h : a.SameShape b) : a.id = b.id := h.1
theorem St.SameShape.pins_eq {a b : St F} (h : a.SameShape b) : a.pins = b.pins := h.2.1
theorem St.SameShape.connTo_eq {a b : St F} (h : a.SameShape b) : a.connTo = b.connTo := h.2.2.2.2.1

/-- normal form: the second structure is the first with another matrix; after substituting it every function that
does not read `S` (`group`, `linkPins`, `hasIdx`, `membersOf`, the bookkeeping of `build`, …) agrees on both by `rfl` -/
theorem St.SameShape.eq_with {a b : St F} (h : a.SameShape b) : ∃ S, b = { a with S := S } := by
  obtain ⟨_, _, _, _, _, _, _⟩ := a
  obtain ⟨_, _, _, S, _, _, _⟩ := b
  obtain ⟨rfl, rfl, rfl, rfl, rfl, rfl⟩ := h
  exact ⟨S, rfl⟩

theorem St.group_sameShape {a a' : St F} (h : a.SameShape a') : a.group = a'.group := by
  obtain ⟨_, rfl⟩ := h.eq_with; rfl

variable [Scalar F]

namespace St

theorem SameShape.symm {a b : St F} (h : a.SameShape b) : b.SameShape a :=
  ⟨h.1.symm, h.2.1.symm, h.2.2.1.symm, h.2.2.2.1.symm, h.2.2.2.2.1.symm, h.2.2.2.2.2.symm⟩

theorem SameShape.trans {a b c : St F} (h : a.SameShape b) (g : b.SameShape c) : a.SameShape c :=
  ⟨h.1.trans g.1, h.2.1.trans g.2.1, h.2.2.1.trans g.2.2.1, h.2.2.2.1.trans g.2.2.2.1,
    h.2.2.2.2.1.trans g.2.2.2.2.1, h.2.2.2.2.2.trans g.2.2.2.2.2⟩

theorem split_of_hasIdx {s : St F} {i o : List PinRef} (h : (s.hasIdx i && s.hasIdx o) = true) :
    ∃ A, s.split i o = .ok A ∧ A.N = i.length ∧ A.M = o.length :=
  ⟨_, split_ok_iff.2 ⟨h, rfl⟩, rfl, rfl⟩

theorem join_eq_of {a b : St F} {n : Nat} {links : List (PinRef × PinRef)}
    {selfIn stOut addPins : List PinRef} {A B : SMat F}
    (h1 : linkPins a b = .ok links)
    (h2 : removeAll a.pins (links.map (·.1)) = .ok selfIn)
    (h3 : removeAll b.pins (links.map (·.2)) = .ok stOut)
    (h4 : a.split selfIn (links.map (·.1)) = .ok A)
    (h5 : b.split (links.map (·.2)) stOut = .ok B)
    (h7 : removeAll (a.pins ++ b.pins) (links.map (·.1) ++ links.map (·.2)) = .ok addPins) :
    St.join a b n = match A.add? B with
      | .ok C => .ok (build a b n C addPins)
      | .error e => .error e := by
  unfold join
  simp only [h1, h2, h3, h4, h5, h7, bind, Except.bind, pure, Except.pure]
  cases A.add? B <;> rfl

/-- the shape steps are shared, and the dimensions of the star product are list lengths -/
theorem join_shape {a a' b b' : St F} (ha : a.SameShape a') (hb : b.SameShape b') (n : Nat) {c : St F}
    (h : St.join a b n = .ok c) :
    (∃ c', St.join a' b' n = .ok c' ∧ c.SameShape c') ∨ St.join a' b' n = .error .singular := by
  obtain ⟨S', rfl⟩ := ha.eq_with
  obtain ⟨T', rfl⟩ := hb.eq_with
  obtain ⟨links, h1, selfIn, h2, stOut, h3, _, h4, _, h5, C, _, addPins, h7, rfl⟩ := join_ok_iff.1 h
  obtain ⟨A', h4', _, hM⟩ := split_of_hasIdx (s := { a with S := S' }) (split_ok_iff.1 h4).1
  obtain ⟨B', h5', hN, _⟩ := split_of_hasIdx (s := { b with S := T' }) (split_ok_iff.1 h5).1
  rw [join_eq_of (a := { a with S := S' }) (b := { b with S := T' }) h1 h2 h3 h4' h5' h7]
  rcases SMat.add?_eq_of_dim (hM.trans ((List.length_map _).trans ((List.length_map _).symm.trans hN.symm)))
    with ⟨C', hC'⟩ | hs
  · rw [hC']; exact .inl ⟨_, rfl, rfl, rfl, rfl, rfl, rfl, rfl⟩
  · rw [hs]; exact .inr rfl

theorem join_sameShape {a a' b b' : St F} (ha : a.SameShape a') (hb : b.SameShape b') (n : Nat)
    {c c' : St F} (h : St.join a b n = .ok c) (h' : St.join a' b' n = .ok c') :
    c.SameShape c' := by
  rcases join_shape ha hb n h with ⟨_, e, hc⟩ | e
  · cases h'.symm.trans e; exact hc
  · cases h'.symm.trans e

theorem join_ok_of_sameShape_ne_singular {a a' b b' : St F} (ha : a.SameShape a')
    (hb : b.SameShape b') (n : Nat) {c : St F} (h : St.join a b n = .ok c) :
    (∃ c', St.join a' b' n = .ok c') ∨ St.join a' b' n = .error .singular :=
  (join_shape ha hb n h).imp_left fun ⟨c', e, _⟩ => ⟨c', e⟩

end St

namespace Solve

def SameShapes (l l' : List (St F)) : Prop := List.Forall₂ St.SameShape l l'

theorem SameShapes.refl (l : List (St F)) : SameShapes l l :=
  List.forall₂_same.2 fun a _ => St.SameShape.refl a

section
omit [Scalar F]

theorem SameShapes.singleton {l l' : List (St F)} (h : SameShapes l l') :
    (∃ s, l = [s]) ↔ ∃ s', l' = [s'] := by
  simp only [← List.length_eq_one_iff, h.length_eq]

theorem sortByPins_sameShapes {l l' : List (St F)} (h : SameShapes l l') :
    SameShapes (sortByPins l) (sortByPins l') := by
  refine List.rel_foldl (P := SameShapes) (fun acc acc' hacc s s' hs => ?_) List.Forall₂.nil h
  have hsp := rel_span (p := fun t : St F => decide (t.pins.length ≤ s.pins.length))
    (q := fun t : St F => decide (t.pins.length ≤ s'.pins.length))
    (fun x y hxy => by rw [hxy.pins_eq, hs.pins_eq]) hacc
  exact List.rel_append (List.rel_append hsp.1 (.cons hs .nil)) hsp.2

theorem find?_id_sameShapes {l l' : List (St F)} (h : SameShapes l l') (i : Nat) :
    Option.Rel St.SameShape (l.find? (·.id == i)) (l'.find? (·.id == i)) :=
  rel_find? (fun x y hxy => by rw [hxy.id_eq]) h

end

theorem stepWith_sameShape (sched : List (St F) → Option (Nat × Nat))
    (hs : ∀ l l', SameShapes l l' → sched l = sched l') {live live' : List (St F)}
    (h : SameShapes live live') (fresh : Nat) {r r' : List (St F)}
    (e : stepWith sched live fresh = .ok r) (e' : stepWith sched live' fresh = .ok r') :
    SameShapes r r' := by
  obtain ⟨i, j, src, tar, new, hij, hi, hj, -, hjn, rfl⟩ := stepWith_ok_iff.1 e
  obtain ⟨i', j', src', tar', new', hij', hi', hj', -, hjn', rfl⟩ := stepWith_ok_iff.1 e'
  cases hij.symm.trans ((hs live live' h).trans hij')
  have hsrc := find?_id_sameShapes h i
  have htar := find?_id_sameShapes h j
  rw [hi, hi'] at hsrc
  rw [hj, hj'] at htar
  cases hsrc with | some hsrc =>
  cases htar with | some htar =>
  exact List.rel_append (rel_filter' (fun x y hxy => by rw [hxy.id_eq]) h)
    (.cons (St.join_sameShape hsrc htar fresh hjn hjn') .nil)

theorem loopWith_sameShape (sched : List (St F) → Option (Nat × Nat))
    (hs : ∀ l l', SameShapes l l' → sched l = sched l') (fuel : Nat) :
    ∀ {live live' : List (St F)}, SameShapes live live' → ∀ (fresh : Nat) {s s' : St F},
      loopWith sched fuel live fresh = .ok s → loopWith sched fuel live' fresh = .ok s' →
      s.SameShape s' := by
  intro live live' h fresh s s' e e'
  fun_induction loopWith sched fuel live fresh generalizing live' with
  | case1 | case3 =>
    obtain ⟨_, rfl⟩ := h.singleton.1 ⟨_, rfl⟩
    simp only [loopWith] at e e'
    cases e; cases e'
    exact List.forall₂_cons.1 h |>.1
  | case2 => cases e
  | case4 _ _ _ _ hst => rw [hst] at e; cases e
  | case5 fuel live fresh r hst hne ih =>
    rw [hst] at e
    have hne' : ∀ s, live' = [s] → False := fun s hs => by
      obtain ⟨_, hl⟩ := h.singleton.2 ⟨s, hs⟩; exact hne _ hl
    simp only [loopWith] at e'
    split at e'
    · cases e'
    · rename_i r' hst'
      exact ih (stepWith_sameShape sched hs h fresh hst hst') e e'

omit [Scalar F] in
theorem goneTo_sameShapes {l l' : List (St F)} (h : SameShapes l l') (b : Nat) :
    Option.Rel St.SameShape (goneTo l b) (goneTo l' b) :=
  rel_find? (fun x y hxy => by rw [St.group_sameShape hxy]) h

theorem step_ok {live r : List (St F)} {fresh : Nat} (e : step live fresh = .ok r) :
    ∃ src rest tar tl new, sortByPins live = src :: rest ∧
      sortByPins ((src.connTo.filterMap (goneTo (sortByPins live))).filter fun t => t.id != src.id) ++ rest
        = tar :: tl ∧
      St.join src tar fresh = .ok new ∧
      r = (sortByPins live).filter (fun s => s.id != src.id && s.id != tar.id) ++ [new] := by
  unfold step at e
  dsimp only at e
  split at e
  · cases e
  · rename_i src rest hsrc
    split at e
    · cases e
    · rename_i tar tl htar
      obtain ⟨new, hj, e⟩ := Except.bind_eq_ok.1 e
      cases e
      exact ⟨src, rest, tar, tl, new, hsrc, htar, hj, rfl⟩

theorem step_sameShape {live live' : List (St F)} (h : SameShapes live live') (fresh : Nat)
    {r r' : List (St F)} (e : step live fresh = .ok r) (e' : step live' fresh = .ok r') :
    SameShapes r r' := by
  obtain ⟨src, rest, tar, tl, new, hsrc, htar, hj, rfl⟩ := step_ok e
  obtain ⟨src', rest', tar', tl', new', hsrc', htar', hj', rfl⟩ := step_ok e'
  have hsorted := sortByPins_sameShapes h
  obtain ⟨hs, hrest⟩ := List.forall₂_cons.1 (hsrc ▸ hsrc' ▸ hsorted)
  have hnb : SameShapes ((src.connTo.filterMap (goneTo (sortByPins live))).filter fun t => t.id != src.id)
      ((src'.connTo.filterMap (goneTo (sortByPins live'))).filter fun t => t.id != src'.id) := by
    rw [← hs.connTo_eq]
    exact rel_filter' (fun x y hxy => by rw [hxy.id_eq, hs.id_eq]) (List.rel_filterMap
      (fun b b' (hb : b = b') => hb ▸ goneTo_sameShapes hsorted b) (List.forall₂_refl _))
  have hcand : SameShapes (_ ++ _) (_ ++ _) := List.rel_append (sortByPins_sameShapes hnb) hrest
  rw [htar, htar'] at hcand
  obtain ⟨ht, -⟩ := List.forall₂_cons.1 hcand
  exact List.rel_append (rel_filter' (fun x y hxy => by rw [hxy.id_eq, hs.id_eq, ht.id_eq]) hsorted)
    (.cons (St.join_sameShape hs ht fresh hj hj') .nil)

theorem loop_sameShape (fuel : Nat) :
    ∀ {live live' : List (St F)}, SameShapes live live' → ∀ (fresh : Nat) {s s' : St F},
      loop fuel live fresh = .ok s → loop fuel live' fresh = .ok s' → s.SameShape s' := by
  intro live live' h fresh s s' e e'
  fun_induction loop fuel live fresh generalizing live' with
  | case1 =>
    obtain ⟨_, rfl⟩ := h.singleton.1 ⟨_, rfl⟩
    simp only [loop, pure, Except.pure] at e e'
    cases e; cases e'
    exact List.forall₂_cons.1 h |>.1
  | case2 => cases e
  | case3 fresh fuel live hne ih =>
    have hne' : ∀ s, live' = [s] → False := fun s hs => by
      obtain ⟨_, hl⟩ := h.singleton.2 ⟨s, hs⟩; exact hne _ hl
    rw [loop] at e'
    · obtain ⟨r, hst, e⟩ := Except.bind_eq_ok.1 e
      obtain ⟨r', hst', e'⟩ := Except.bind_eq_ok.1 e'
      exact ih r (step_sameShape h fresh hst hst') e e'
    · exact hne'

end Solve
