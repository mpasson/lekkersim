import LekkerVerif.Core.Join
import LekkerVerif.Core.Bridge
import LekkerVerif.Core.Kernel

/-! The executable `S_matrix.add` (`SMat.add?`) on well-formed operands is the star product `SM.add` of the Mathlib-level
partitioned matrices, and succeeds only when the inner system is a unit. -/

namespace SMat
variable {F : Type} [Field F] [DecidableEq F]

def WF (A : SMat F) : Prop :=
  A.S11.r = A.M ∧ A.S11.c = A.N ∧ A.S22.r = A.N ∧ A.S22.c = A.M ∧
  A.S12.r = A.M ∧ A.S12.c = A.M ∧ A.S21.r = A.N ∧ A.S21.c = A.N

def toSM (A : SMat F) (n m : Nat) : SM F (Fin n) (Fin m) :=
  { S11 := A.S11.toMatrix m n, S22 := A.S22.toMatrix n m, S12 := A.S12.toMatrix m m, S21 := A.S21.toMatrix n n }

@[simp] theorem mul_r (A B : Mat F) : (Mat.mul A B).r = A.r := rfl
@[simp] theorem mul_c (A B : Mat F) : (Mat.mul A B).c = B.c := rfl
@[simp] theorem add_r (A B : Mat F) : (Mat.add A B).r = A.r := rfl
@[simp] theorem add_c (A B : Mat F) : (Mat.add A B).c = A.c := rfl
@[simp] theorem sub_r (A B : Mat F) : (Mat.sub A B).r = A.r := rfl
@[simp] theorem sub_c (A B : Mat F) : (Mat.sub A B).c = A.c := rfl
@[simp] theorem one_r (n : Nat) : (Mat.one n : Mat F).r = n := rfl
@[simp] theorem one_c (n : Nat) : (Mat.one n : Mat F).c = n := rfl

theorem inner_eq (A B : SMat F) (hA : A.WF) (hB : B.WF) (hM : A.M = B.N) :
    (Mat.sub (Mat.one A.M) (Mat.mul A.S12 B.S21)).toMatrix A.M A.M
      = 1 - (A.toSM A.N A.M).S12 * (B.toSM A.M B.M).S21 := by
  obtain ⟨_, _, _, _, a12r, a12c, _, _⟩ := hA
  obtain ⟨_, _, _, _, _, _, _, b21c⟩ := hB
  rw [Mat.toMatrix_sub' _ _ A.M A.M rfl rfl, Mat.toMatrix_one,
    Mat.toMatrix_mul' _ _ A.M A.M A.M a12r a12c (by rw [b21c, hM])]
  rfl

theorem inner_eq' (A B : SMat F) (hA : A.WF) (hB : B.WF) (hM : A.M = B.N) :
    (Mat.sub (Mat.one A.M) (Mat.mul B.S21 A.S12)).toMatrix A.M A.M
      = 1 - (B.toSM A.M B.M).S21 * (A.toSM A.N A.M).S12 := by
  obtain ⟨_, _, _, _, _, a12c, _, _⟩ := hA
  obtain ⟨_, _, _, _, _, _, b21r, b21c⟩ := hB
  rw [Mat.toMatrix_sub' _ _ A.M A.M rfl rfl, Mat.toMatrix_one,
    Mat.toMatrix_mul' _ _ A.M A.M A.M (by rw [b21r, hM]) (by rw [b21c, hM]) a12c]
  rfl

/-- the two calls of `inv?` that both `add?` and `Monitor.intComplete?` make -/
theorem inv?_inner (A B : SMat F) (hA : A.WF) (hB : B.WF) (hM : A.M = B.N) {X Y : Mat F}
    (hX : Mat.inv? (Mat.sub (Mat.one A.M) (Mat.mul A.S12 B.S21)) = some X)
    (hY : Mat.inv? (Mat.sub (Mat.one A.M) (Mat.mul B.S21 A.S12)) = some Y) :
    (X.r = A.M ∧ X.c = A.M) ∧ (Y.r = A.M ∧ Y.c = A.M) ∧
    IsUnit (1 - (A.toSM A.N A.M).S12 * (B.toSM A.M B.M).S21) ∧
    X.toMatrix A.M A.M = (1 - (A.toSM A.N A.M).S12 * (B.toSM A.M B.M).S21)⁻¹ ∧
    Y.toMatrix A.M A.M = (1 - (B.toSM A.M B.M).S21 * (A.toSM A.N A.M).S12)⁻¹ := by
  obtain ⟨xr, xc, xl, -⟩ := Mat.inv?_spec _ X A.M rfl rfl hX
  obtain ⟨yr, yc, yl, -⟩ := Mat.inv?_spec _ Y A.M rfl rfl hY
  rw [inner_eq A B hA hB hM] at xl
  rw [inner_eq' A B hA hB hM] at yl
  exact ⟨⟨xr, xc⟩, ⟨yr, yc⟩, (Matrix.isUnit_iff_isUnit_det _).2 (Matrix.isUnit_det_of_right_inverse xl),
    (Matrix.inv_eq_right_inv xl).symm, (Matrix.inv_eq_right_inv yl).symm⟩

/-- the shapes `n`, `k`, `m` are parameters tied to the operands by equations, so that the statement can be used at
whatever shape the caller's matrices are read (list lengths, in `join`) without dependent rewriting -/
theorem add?_spec (A B C : SMat F) (n k m : Nat) (hA : A.WF) (hB : B.WF)
    (hn : A.N = n) (hk : A.M = k) (hm : B.M = m) (h : A.add? B = .ok C) :
    B.N = k ∧ C.N = n ∧ C.M = m ∧ C.WF ∧
    IsUnit (1 - (A.toSM n k).S12 * (B.toSM k m).S21) ∧
    C.toSM n m = (A.toSM n k).add (B.toSM k m) := by
  subst hn hk hm
  unfold add? at h
  split at h
  · cases h
  rename_i hMN
  have hM : A.M = B.N := by simpa using hMN
  split at h
  · rename_i X Y hX hY
    obtain ⟨⟨xr, xc⟩, ⟨yr, yc⟩, uX, iX, iY⟩ := inv?_inner A B hA hB hM hX hY
    obtain ⟨a11r, a11c, a22r, a22c, a12r, a12c, a21r, a21c⟩ := hA
    obtain ⟨b11r, b11c, b22r, b22c, b12r, b12c, b21r, b21c⟩ := hB
    cases h
    refine ⟨hM.symm, rfl, rfl, by simp [WF, *], uX, ?_⟩
    simp only [toSM, SM.add] at iX iY ⊢
    -- every product is read at inner dimension `A.M`; the shapes of the factors come from the two `WF`s
    have e (P Q : Mat F) (r c : Nat) (hr : P.r = r) (hk : P.c = A.M) (hc : Q.c = c) :=
      Mat.toMatrix_mul' P Q r A.M c hr hk hc
    rw [← hM] at b11c b21c
    simp only [e, Mat.toMatrix_add', mul_r, mul_c, a11c, a22r, a22c, a12c, a21r, a21c, b11r, b11c, b22c, b12r, b12c, b21c, xc, yc,
      iX, iY]
  · cases h
end SMat
