import LekkerVerif.Core.Monitor
import LekkerVerif.Core.RefineAdd
import LekkerVerif.Core.SolveSpec

/-! The monitor path.  The executable `Monitor.intComplete?` (array-backed matrices, lists of amplitudes), seen through
`Mat.toMatrix`, computes the canonical pair of interface waves `SM.waves` of the Mathlib-level matrices.  The links the read-out reports are those `St.linkPins`
finds (`St.linkPins_spec`, `St.mem_getOutTo`: in the order of `a`'s connection table, exactly the symmetric connections
from `a` into a member of `b`). -/

open Matrix

namespace Mat
variable {F : Type} [Field F] [DecidableEq F]

def colVec {r : Nat} (C : Matrix (Fin r) (Fin 1) F) : Fin r → F := fun i => C i 0

omit [DecidableEq F] in
theorem colVec_mul {r k : Nat} (P : Matrix (Fin r) (Fin k) F) (C : Matrix (Fin k) (Fin 1) F) :
    colVec (P * C) = P *ᵥ colVec C := rfl

omit [DecidableEq F] in
theorem colVec_add {r : Nat} (C D : Matrix (Fin r) (Fin 1) F) : colVec (C + D) = colVec C + colVec D := rfl

/-- the data of a one-column matrix read as a list (a missing entry is `0` on both sides) -/
theorem getD_toList (M : Mat F) (hc : M.c = 1) (n : Nat) :
    (fun i : Fin n => M.d.toList.getD i.1 0) = colVec (M.toMatrix n 1) := by
  funext i
  show _ = M.d[i.1 * M.c + 0]!
  rw [hc, Nat.mul_one, Nat.add_zero, List.getD_eq_getElem?_getD, Array.getElem?_toList, getElem!_def]
  rfl

theorem colVec_list (v : List F) (n : Nat) :
    colVec ((⟨v.length, 1, v.toArray⟩ : Mat F).toMatrix n 1) = fun i : Fin n => v.getD i.1 0 :=
  (getD_toList ⟨v.length, 1, v.toArray⟩ rfl n).symm

/-- `X (P u + Q (R d))` on array-backed matrices and lists of amplitudes, read as Mathlib matrices and vectors -/
theorem colVec_feedback (X P Q R : Mat F) (k n m : Nat) (xr : X.r = k) (xc : X.c = k) (pr : P.r = k) (pc : P.c = n)
    (qr : Q.r = k) (qc : Q.c = k) (rr : R.r = k) (rc : R.c = m) (u d : List F) :
    (fun i : Fin k =>
        (mul X (add (mul P ⟨u.length, 1, u.toArray⟩) (mul Q (mul R ⟨d.length, 1, d.toArray⟩)))).d.toList.getD i.1 0) =
      X.toMatrix k k *ᵥ (P.toMatrix k n *ᵥ (fun i : Fin n => u.getD i.1 0) +
        (Q.toMatrix k k * R.toMatrix k m) *ᵥ fun i : Fin m => d.getD i.1 0) := by
  rw [getD_toList _ rfl, toMatrix_mul' _ _ k k 1 xr xc rfl, colVec_mul, toMatrix_add' _ _ k 1 (by exact pr) rfl, colVec_add,
    toMatrix_mul' _ _ k n 1 pr pc rfl, colVec_mul, colVec_list, toMatrix_mul' _ _ k k 1 qr qc rfl, colVec_mul,
    toMatrix_mul' _ _ k m 1 rr rc rfl, colVec_mul, colVec_list, Matrix.mulVec_mulVec]

end Mat

namespace Monitor
variable {F : Type} [Field F] [DecidableEq F]

set_option linter.unusedVariables false in
/-- `hu`, `hd` (the excitations have the length of the outer ports) are kept for the intended reading; the proof does not
need them: a missing entry is read as `0` on both sides (`getD`, out-of-range array read). -/
theorem intComplete?_spec (A B : SMat F) (hA : A.WF) (hB : B.WF) (u d uo dd : List F)
    (hu : u.length = A.N) (hd : d.length = B.M) (h : intComplete? A B u d = .ok (uo, dd)) :
    A.M = B.N ∧ uo.length = A.M ∧ dd.length = A.M ∧
    IsUnit (1 - (A.toSM A.N A.M).S12 * (B.toSM A.M B.M).S21) ∧
    ((fun i : Fin A.M => uo.getD i.1 0), (fun i : Fin A.M => dd.getD i.1 0))
      = (A.toSM A.N A.M).waves (B.toSM A.M B.M) (fun i : Fin A.N => u.getD i.1 0)
          (fun i : Fin B.M => d.getD i.1 0) := by
  unfold intComplete? at h
  split at h
  · cases h
  rename_i hMN
  have hM : A.M = B.N := by simpa using hMN
  split at h
  · rename_i X Y hX hY
    obtain ⟨⟨xr, xc⟩, ⟨yr, yc⟩, uX, iX, iY⟩ := SMat.inv?_inner A B hA hB hM hX hY
    obtain ⟨a11r, a11c, -, -, a12r, a12c, -, -⟩ := hA
    obtain ⟨-, -, b22r, b22c, -, -, b21r, b21c⟩ := hB
    cases h
    beta_reduce
    refine ⟨hM, ?_, ?_, uX, Prod.ext ?_ ?_⟩
    · rw [Array.length_toList, Mat.mul, Mat.ofFn, Array.size_ofFn, xr]; exact Nat.mul_one _
    · rw [Array.length_toList, Mat.mul, Mat.ofFn, Array.size_ofFn, yr]; exact Nat.mul_one _
    -- with `X`, `Y` the inverses of the two inner systems, `X (A11 u + A12 B22 d)` and `Y (B22 d + B21 A11 u)` are the
    -- components of `SM.waves` by `rfl`
    · rw [Mat.colVec_feedback X A.S11 A.S12 B.S22 A.M A.N B.M xr xc a11r a11c a12r a12c (b22r.trans hM.symm) b22c u d, iX]
      rfl
    · rw [Mat.colVec_feedback Y B.S22 B.S21 A.S11 A.M B.M A.N yr yc (b22r.trans hM.symm) b22c (b21r.trans hM.symm)
        (b21c.trans hM.symm) a11r a11c d u, iY]
      rfl
  · cases h

end Monitor

namespace Monitor
variable {F : Type} [Scalar F]

theorem intermediate_links (main mon : St F) (exc : PinRef → F) (r : Monitor.Readout F)
    (h : Monitor.intermediate main mon exc = .ok r) : St.linkPins main mon = .ok r.links := by
  unfold intermediate at h
  obtain ⟨links, hl, h⟩ := Except.bind_eq_ok.1 h
  obtain ⟨_, -, h⟩ := Except.bind_eq_ok.1 h
  obtain ⟨_, -, h⟩ := Except.bind_eq_ok.1 h
  obtain ⟨_, -, h⟩ := Except.bind_eq_ok.1 h
  obtain ⟨_, -, h⟩ := Except.bind_eq_ok.1 h
  obtain ⟨_, -, h⟩ := Except.bind_eq_ok.1 h
  cases h
  exact hl

end Monitor
