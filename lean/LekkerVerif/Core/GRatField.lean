import LekkerVerif.Core.Basic
import Mathlib.Algebra.Field.Defs
import Mathlib.Algebra.Order.Field.Rat
import Mathlib.Tactic.Ring
import Mathlib.Tactic.FieldSimp

/-! The Gaussian rationals `GRat`, the exact scalars the driver computes with, form a field under the operations the model
executes, so what is proved over an arbitrary field holds of what is run. -/

namespace GRat

@[ext] theorem ext' {a b : GRat} (h1 : a.re = b.re) (h2 : a.im = b.im) : a = b := by
  cases a; cases b; simp_all

@[simp] theorem add_re (a b : GRat) : (a + b).re = a.re + b.re := rfl
@[simp] theorem add_im (a b : GRat) : (a + b).im = a.im + b.im := rfl
@[simp] theorem mul_re (a b : GRat) : (a * b).re = a.re * b.re - a.im * b.im := rfl
@[simp] theorem mul_im (a b : GRat) : (a * b).im = a.re * b.im + a.im * b.re := rfl
@[simp] theorem neg_re (a : GRat) : (-a).re = -a.re := rfl
@[simp] theorem neg_im (a : GRat) : (-a).im = -a.im := rfl
@[simp] theorem sub_re (a b : GRat) : (a - b).re = a.re - b.re := rfl
@[simp] theorem sub_im (a b : GRat) : (a - b).im = a.im - b.im := rfl
@[simp] theorem zero_re : (0 : GRat).re = 0 := rfl
@[simp] theorem zero_im : (0 : GRat).im = 0 := rfl
@[simp] theorem one_re : (1 : GRat).re = 1 := rfl
@[simp] theorem one_im : (1 : GRat).im = 0 := rfl
@[simp] theorem inv_re (a : GRat) : (a⁻¹).re = a.re / (a.re * a.re + a.im * a.im) := rfl
@[simp] theorem inv_im (a : GRat) : (a⁻¹).im = -a.im / (a.re * a.re + a.im * a.im) := rfl

theorem normSq_pos {a : GRat} (h : a ≠ 0) : 0 < a.re * a.re + a.im * a.im :=
  (add_nonneg (mul_self_nonneg a.re) (mul_self_nonneg a.im)).lt_of_ne' fun h0 =>
    have h0 := mul_self_add_mul_self_eq_zero.1 h0
    h (ext' h0.1 h0.2)

instance : Field GRat where
  add_assoc a b c := by ext <;> simp <;> ring
  zero_add a := by ext <;> simp
  add_zero a := by ext <;> simp
  add_comm a b := by ext <;> simp <;> ring
  neg_add_cancel a := by ext <;> simp
  sub_eq_add_neg a b := by ext <;> simp <;> ring
  mul_assoc a b c := by ext <;> simp <;> ring
  one_mul a := by ext <;> simp
  mul_one a := by ext <;> simp
  left_distrib a b c := by ext <;> simp <;> ring
  right_distrib a b c := by ext <;> simp <;> ring
  zero_mul a := by ext <;> simp
  mul_zero a := by ext <;> simp
  mul_comm a b := by ext <;> simp <;> ring
  exists_pair_ne := ⟨0, 1, by intro h; have := congrArg GRat.re h; simp at this⟩
  mul_inv_cancel a h := by
    have hne : a.re * a.re + a.im * a.im ≠ 0 := ne_of_gt (normSq_pos h)
    ext
    · simp only [mul_re, inv_re, inv_im, one_re]
      rw [mul_div_assoc', mul_div_assoc', ← sub_div, div_eq_one_iff_eq hne]
      ring
    · simp only [mul_im, inv_re, inv_im, one_im]; field_simp; ring
  inv_zero := by ext <;> simp
  nsmul := nsmulRec
  zsmul := zsmulRec
  nnqsmul := _
  qsmul := _
  nnqsmul_def := fun _ _ => rfl
  qsmul_def := fun _ _ => rfl
end GRat
