import LekkerVerif.Properties.C07
import LekkerVerif.Properties.C01
import LekkerVerif.Proofs.WiringNet

/-! # C07 (continued) — after any edit history the solver *solves* like a freshly built one

`Wiring.denote` (Model/WiringNet.lean) is the network a wiring state denotes: the present structures in the order of
`Solver.structures`, one link per entry of the connection table, one exposure per entry of the pin mapping.  The driver's op
`wsolve` runs a history through the wiring model and, at every `solve`, the denoted network through the elimination loop; the
result is compared with the real `Solver.solve()` of that moment.  Every history (add / re-add / connect / cut / remove /
expose / raise-all calls, valid or rejected) leaves a state whose denoted network is well formed, so C01 and the definedness
theorem apply to it.  The denoted network is a function of the state's tables alone: two histories that end in the same tables
solve alike, in particular an edit history and a fresh build. -/

namespace Wiring

variable {F : Type} {comps : List (CompD F)} {pinName : Pin → String} {pins : List Nat}

/-- every edit history leaves a state that denotes a well-formed network -/
theorem C07_history_denotes_wellformed_network (st : Static comps pinName pins) (expName : Nat → String)
    (nameOf : Pin → Nat) (ops : List OpX) :
    (denote comps pinName expName (runX nameOf ops pins)).WF :=
  reach_denote_wf st expName (runX_reach nameOf pins ops)

/-- **after any edit history**: when only free pins are exposed, each once (the states in which the code can solve), whatever
`solve` returns on the denoted network is the solution operator of that network, for every merge schedule; and with a valid
schedule the solve either returns or fails because an inner system is singular - never because a table is inconsistent -/
theorem C07_history_solves_like_fresh [Field F] [DecidableEq F] (st : Static comps pinName pins) (expName : Nat → String)
    (nameOf : Pin → Nat) (ops : List OpX) :
    let w := runX nameOf ops pins
    let net := denote comps pinName expName w
    net.WF ∧
    ((∀ m ∈ w.mapping, m.2 ∈ w.free) → (w.mapping.map (·.2)).Nodup →
      ∀ sched total, net.solveWith sched = .ok total → net.SolvedBy total.sem) ∧
    ((∀ c ∈ comps, ∀ n ∈ c.pins, (lookupL c.idx n).isSome) → w.structs ≠ [] →
      ∀ sched, Solve.ValidSched sched →
        (∃ total, net.solveWith sched = .ok total) ∨ net.solveWith sched = .error .singular) :=
  reach_denote_solve st expName (runX_reach nameOf pins ops)

/-- the driver's pin naming (pin `p` of structure `i` is the `p`-th pin name of component `i`) meets the static tie -/
theorem C07_driver_naming_static (comps : List (CompD F)) (hnd : ∀ c ∈ comps, c.pins.Nodup) :
    Static comps (driverPinName comps) (comps.map fun c => c.pins.length) :=
  static_driver comps hnd

/-! non-vacuity: for two components `cNV` the driver's naming meets the static tie, and a concrete history of base calls
(connected, both outer pins exposed) ends in a state that exposes only free pins, each once, and has a structure: the
hypotheses of `C07_history_solves_like_fresh` on the state (the one on the index tables is not instantiated here); the
network it denotes is the one of `C01`'s example -/
section NonVacuity
def opsNV : List Op := [.add 0, .add 1, .connect (0, 1) (1, 0), .map 0 (0, 0), .map 1 (1, 1)]
def expNV : Nat → String := fun n => if n = 0 then "in" else "out"

example : Static [cNV, cNV] (driverPinName [cNV, cNV]) [2, 2] :=
  static_driver [cNV, cNV] (by intro c hc; simp at hc; subst hc; decide)

example : (∀ m ∈ (run opsNV [2, 2]).mapping, m.2 ∈ (run opsNV [2, 2]).free) ∧
    ((run opsNV [2, 2]).mapping.map (·.2)).Nodup ∧ (run opsNV [2, 2]).structs ≠ [] := by decide

example : (denote [cNV, cNV] (driverPinName [cNV, cNV]) expNV (run opsNV [2, 2])).links = netNV.links ∧
    (denote [cNV, cNV] (driverPinName [cNV, cNV]) expNV (run opsNV [2, 2])).exposed = netNV.exposed ∧
    (denote [cNV, cNV] (driverPinName [cNV, cNV]) expNV (run opsNV [2, 2])).comps.length = 2 := by decide
end NonVacuity

end Wiring
