import LekkerVerif.Properties.C11Hier
import LekkerVerif.Proofs.HierParamsFlatten

/-! # C11 (continued) — `flatten()` preserves every parameter's meaning, in the end-to-end model

`PNet.psolve` and `PNet.pflatSolve` (Model/HierParams.lean: `top.solve(**kw)`, and `top.flatten(); top.solve(**kw)`) are what
the driver runs for `phsolve` and `pflatten`; both are compared with the code on every parametric hierarchy.  `PNet.pwf`
(Model/HierParamsWF.lean) is the executable hypothesis: every level a well-formed level; every placement's table injective on,
and only renaming, the visible parameter names of the placed object, none of which is `R`, `w` or `pol` (`add_structure`
registers no default under these), a new name colliding with a visible name only if that name is renamed away.  The driver
evaluates it on every hierarchy and the evidence counts it (`hyp:PWF`). -/

variable {F : Type} [Field F] [DecidableEq F]

/-- **flatten() preserves the scattering matrix and every parameter's meaning**: for every well-formed parametric hierarchy of any
depth, every call dictionary `kw` (explicit values for any subset of the visible names, none, or names that do not exist) and
any merge schedules, the solve after `flatten()` exposes the same names and carries the same coefficients as the solve before -/
theorem C11_flatten_preserves_parameters (s s' : List (St F) → Option (Nat × Nat)) (kw : Dict F) (t : PNet F)
    (hyp : PNet.pwf t = true) (c c' : CompD F) (h : PNet.psolve s kw t = .ok c) (h' : PNet.pflatSolve s' kw t = .ok c') :
    c'.pins = c.pins ∧ ∀ x ∈ c.pins, ∀ y ∈ c.pins, c'.sem x y = c.sem x y :=
  PNet.pflatSolve_preserves s s' kw t hyp c c' h h'

/-- the structural half of the hypothesis: a hierarchy that passes the check instantiates, at every dictionary, to a well-formed
tree (so `C02_hier_exec_sound` and `C11_flatten_preserves_matrix` apply to it) -/
theorem C11_pwf_wellformed (t : PNet F) (hyp : PNet.pwf t = true) (d : Dict F) : HNet.WFTree (PNet.inst d t) :=
  PNet.wfTree_inst t d hyp
