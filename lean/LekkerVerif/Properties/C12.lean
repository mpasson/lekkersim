import LekkerVerif.Proofs.SplitLoop
import LekkerVerif.Core.Disjoint

/-! # C12 — split() yields the connected components -/

namespace Split

/-- **partition**: every declared structure lies in exactly one returned set -/
theorem C12_partition (adj : Node → List Node) (hsym : ∀ x y, y ∈ adj x → x ∈ adj y) (structures : List Node)
    (x : Node) (hx : x ∈ structures) :
    (∃ S ∈ components structures adj, x ∈ S) ∧
    ∀ S ∈ components structures adj, ∀ T ∈ components structures adj, x ∈ S → x ∈ T → S = T :=
  components_partition adj hsym structures x hx

/-- **components**: two structures share a returned set exactly when a chain of connections links them —
every topology (cycles, multi-links, isolated structures), every declaration order -/
theorem C12_components (adj : Node → List Node) (hsym : ∀ x y, y ∈ adj x → x ∈ adj y)
    (structures : List Node) (hclosed : ∀ x ∈ structures, ∀ y ∈ adj x, y ∈ structures)
    (x y : Node) (hx : x ∈ structures) :
    (∃ S ∈ components structures adj, x ∈ S ∧ y ∈ S) ↔ Conn adj x y :=
  components_spec adj hsym structures hclosed x y hx

/-! non-vacuity: a 3-chain declared A, C, B (the order that crashed the pinned loop) and a 3-cycle -/
example : (components [0, 2, 1] (fun i => if i = 0 then [1] else if i = 1 then [0, 2] else if i = 2 then [1] else [])).length = 1 := by
  decide
example : (components [0, 1, 2, 3] (fun i => if i = 0 then [1, 2] else if i = 1 then [0, 2] else if i = 2 then [0, 1] else [])).length = 2 := by
  decide

end Split

/-- **behavioural half of C12**: let the circuit fall into two parts without a link between them (`ANet.Apart`: no common
pin, links and exposed pins stay on their side), with solution operators `T₁`, `T₂` (what the two solvers returned by
`split()` compute, C01).  Then *whatever* operator `T` solves the whole circuit (what the original solver computes) equals
`T₁` on the pins the first part owns and `T₂` on the pins the second part owns, and it has no coefficient between the two
parts.  (More than two components: apply it repeatedly, one component against the union of the others.) -/
theorem C12_component_behaves {F : Type} [Field F] {P : Type} [DecidableEq P] (N₁ N₂ : ANet P F) (ap : ANet.Apart N₁ N₂)
    (hn : (N₁.exposed ++ N₂.exposed).Nodup) (T T₁ T₂ : P → P → F)
    (h₁ : N₁.SolvedBy T₁) (h₂ : N₂.SolvedBy T₂) (hT : (ANet.union N₁ N₂).SolvedBy T) :
    (∀ x ∈ N₁.exposed, ∀ y ∈ N₁.exposed, T x y = T₁ x y) ∧ (∀ x ∈ N₂.exposed, ∀ y ∈ N₂.exposed, T x y = T₂ x y) ∧
    (∀ x ∈ N₁.exposed, ∀ y ∈ N₂.exposed, T x y = 0 ∧ T y x = 0) :=
  ANet.component_behaves ap hn T T₁ T₂ h₁ h₂ hT

/-- … and the whole is solvable whenever the parts are (the original solver does not fail where the sub-circuits succeed) -/
theorem C12_union_solved {F : Type} [Field F] {P : Type} [DecidableEq P] (N₁ N₂ : ANet P F) (ap : ANet.Apart N₁ N₂)
    (T₁ T₂ : P → P → F) (h₁ : N₁.SolvedBy T₁) (h₂ : N₂.SolvedBy T₂) [∀ p, Decidable (N₁.pinSet p)] :
    (ANet.union N₁ N₂).SolvedBy (ANet.sumOp N₁ T₁ T₂) := ANet.union_solvedBy ap T₁ T₂ h₁ h₂
