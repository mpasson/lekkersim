import Mathlib.Analysis.Complex.Norm
import Mathlib.Analysis.SpecialFunctions.Pow.Real
import Mathlib.Tactic.FinCases
import Mathlib.Tactic.Ring
import LekkerVerif.Generated.InPulse

/-! # C14 — InPulse export followed by import reproduces the model

The encoding is per coefficient `z ↦ (|z|², arg z)`, columns are named `"{in}//{out}"`, the import decodes
`√abs2 · e^{i·phase}` and looks columns up by name.  Text layers (CSV numbers, YAML) and scipy's interpolants are
assumptions with monitors in the harness (A-csv, A-yaml, A-interp).

Tie to the source (`C14_src_*`, end of the file): on every run the translator executes the export side and the import side of the
current `model.py` on a solved model with a symbolic matrix stack, the text layers and `interp1d` being replaced by what they are
assumed to be (`Generated/InPulse.lean`); every coefficient of the re-imported model - at both exported points, at the midpoint,
without and with a mode mapping - is identified with the exported one. -/

namespace C14

open Complex

/-- **decode ∘ encode = id on every coefficient**, zero included: `√(|z|²) · e^{i·arg z} = z` -/
theorem C14_amplitude (z : ℂ) : ((Real.sqrt (‖z‖ ^ 2) : ℝ) : ℂ) * Complex.exp (Complex.arg z * Complex.I) = z := by
  rw [Real.sqrt_sq (norm_nonneg z)]
  exact Complex.norm_mul_exp_arg_mul_I z

/-- the exported `abs2` column is what `get_T` reports and is never negative -/
theorem C14_abs2_nonneg (z : ℂ) : 0 ≤ ‖z‖ ^ 2 := by positivity

/-- **no transposition / no mix-up**: looking a coefficient up by its column name returns the coefficient of exactly
that ordered pin pair, provided the naming of ordered pairs is injective (true when no pin name contains "//") -/
theorem C14_no_transpose {P V : Type} [DecidableEq P] (name : P × P → String) (hinj : Function.Injective name)
    (table : List ((P × P) × V)) (k : P × P) :
    (table.map fun e => (name e.1, e.2)).lookup (name k) = table.lookup k := by
  induction table with
  | nil => rfl
  | cons e t ih =>
    -- by injectivity the two look-ups compare their keys alike
    have hk : (name k == name e.1) = (k == e.1) := by simp [hinj.eq_iff]
    rw [List.map_cons, List.lookup_cons, List.lookup_cons, hk, ih]

/-- piecewise-linear interpolation on one interval (the model of `interp1d` between neighbouring points) -/
noncomputable def lerp (x0 x1 : ℝ) (y0 y1 : ℂ) (x : ℝ) : ℂ := y0 + (((x - x0) / (x1 - x0) : ℝ) : ℂ) * (y1 - y0)

/-- **exported points are reproduced**, the first and the last of every interval included -/
theorem C14_nodes (x0 x1 : ℝ) (y0 y1 : ℂ) (h : x0 ≠ x1) : lerp x0 x1 y0 y1 x0 = y0 ∧ lerp x0 x1 y0 y1 x1 = y1 := by
  have hne : x1 - x0 ≠ 0 := sub_ne_zero.2 (Ne.symm h)
  constructor
  · simp [lerp]
  · simp only [lerp, div_self hne]
    push_cast
    ring

/-- **linear in between**: at `x = (1-t)·x0 + t·x1` the value is `(1-t)·y0 + t·y1` -/
theorem C14_linear (x0 x1 : ℝ) (y0 y1 : ℂ) (t : ℝ) (h : x0 ≠ x1) :
    lerp x0 x1 y0 y1 ((1 - t) * x0 + t * x1) = ((1 - t : ℝ) : ℂ) * y0 + (t : ℂ) * y1 := by
  have hne : x1 - x0 ≠ 0 := sub_ne_zero.2 (Ne.symm h)
  have : ((1 - t) * x0 + t * x1 - x0) / (x1 - x0) = t := by
    rw [div_eq_iff hne]
    ring
  simp only [lerp, this]
  push_cast
  ring

/-- mode selection / renaming at load time: a pin is kept iff its mode is in the mapping, and then renamed -/
def mapPins {B : Type} (mm : List (String × String)) (pins : List (B × String)) : List ((B × String) × (B × String)) :=
  pins.filterMap fun p => (mm.lookup p.2).map fun m' => (p, (p.1, m'))

/-- **mode mapping selects and renames, nothing else**: the kept pins are exactly those whose mode is mapped -/
theorem C14_mode_map {B : Type} (mm : List (String × String)) (pins : List (B × String)) (p : B × String) (q : B × String) :
    (p, q) ∈ mapPins mm pins ↔ p ∈ pins ∧ ∃ m', mm.lookup p.2 = some m' ∧ q = (p.1, m') := by
  unfold mapPins
  simp only [List.mem_filterMap, Option.map_eq_some_iff]
  constructor
  · rintro ⟨a, ha, m', hm, ⟨⟩⟩
    exact ⟨ha, m', hm, rfl⟩
  · rintro ⟨hp, m', hm, rfl⟩
    exact ⟨p, hp, m', hm, rfl⟩

/-- renaming a parameter on export and back on import cancels (for injective renamings of the parameter names) -/
theorem C14_param_names (ren back : String → String) (h : ∀ x, back (ren x) = x) (cols : List String) :
    (cols.map ren).map back = cols := by
  simp [List.map_map, Function.comp_def, h]

section Source
open Generated.InPulse

/-- exported pins `p_TE, p_TM, q_TE` → matrix rows of the exported model -/
def idx : Fin 3 → Fin 3 := ![1, 2, 0]

/-- what the import computes from what the export wrote for one coefficient: `√abs2 · e^{1j·phase}`, in the four
spellings of the exponent a trace may show -/
noncomputable def dec (z : ℂ) : ℂ :=
  ((Real.sqrt (‖z‖ ^ (2 : ℕ)) : ℝ) : ℂ) * Complex.exp ((((1 : ℝ) : ℂ) * Complex.I) * ((Complex.arg z : ℝ) : ℂ))
noncomputable def dec' (z : ℂ) : ℂ :=
  ((Real.sqrt (‖z‖ ^ (2 : ℕ)) : ℝ) : ℂ) * Complex.exp (((Complex.arg z : ℝ) : ℂ) * (((1 : ℝ) : ℂ) * Complex.I))
noncomputable def dec2 (z : ℂ) : ℂ :=
  ((Real.sqrt (‖z‖ ^ (2 : ℕ)) : ℝ) : ℂ) * Complex.exp (Complex.I * ((Complex.arg z : ℝ) : ℂ))
noncomputable def dec3 (z : ℂ) : ℂ :=
  ((Real.sqrt (‖z‖ ^ (2 : ℕ)) : ℝ) : ℂ) * Complex.exp (((Complex.arg z : ℝ) : ℂ) * Complex.I)

theorem amplitude_of (z : ℂ) {w : ℂ} (hw : w = Complex.arg z * Complex.I) :
    ((Real.sqrt (‖z‖ ^ 2) : ℝ) : ℂ) * Complex.exp w = z := hw ▸ C14_amplitude z

theorem dec_eq (z : ℂ) : dec z = z := amplitude_of z (by push_cast; ring)
theorem dec'_eq (z : ℂ) : dec' z = z := amplitude_of z (by push_cast; ring)
theorem dec2_eq (z : ℂ) : dec2 z = z := amplitude_of z (mul_comm _ _)
theorem dec3_eq (z : ℂ) : dec3 z = z := C14_amplitude z

theorem mid_of_eq {f : ℂ → ℂ} (hf : ∀ z, f z = z) (z0 z1 : ℂ) :
    f z0 + (((1 / 2 : ℝ) : ℝ) : ℂ) * (f z1 - f z0) = ((1 / 2 : ℝ) : ℂ) * z0 + ((1 / 2 : ℝ) : ℂ) * z1 := by
  rw [hf, hf]; push_cast; ring

theorem dec_mid (z0 z1 : ℂ) :
    dec z0 + (((1 / 2 : ℝ) : ℝ) : ℂ) * (dec z1 - dec z0) = ((1 / 2 : ℝ) : ℂ) * z0 + ((1 / 2 : ℝ) : ℂ) * z1 :=
  mid_of_eq dec_eq z0 z1

theorem dec'_mid (z0 z1 : ℂ) :
    dec' z0 + (((1 / 2 : ℝ) : ℝ) : ℂ) * (dec' z1 - dec' z0) = ((1 / 2 : ℝ) : ℂ) * z0 + ((1 / 2 : ℝ) : ℂ) * z1 :=
  mid_of_eq dec'_eq z0 z1

theorem dec2_mid (z0 z1 : ℂ) :
    dec2 z0 + (((1 / 2 : ℝ) : ℝ) : ℂ) * (dec2 z1 - dec2 z0) = ((1 / 2 : ℝ) : ℂ) * z0 + ((1 / 2 : ℝ) : ℂ) * z1 :=
  mid_of_eq dec2_eq z0 z1

theorem dec3_mid (z0 z1 : ℂ) :
    dec3 z0 + (((1 / 2 : ℝ) : ℝ) : ℂ) * (dec3 z1 - dec3 z0) = ((1 / 2 : ℝ) : ℂ) * z0 + ((1 / 2 : ℝ) : ℂ) * z1 :=
  mid_of_eq dec3_eq z0 z1

-- on a trace in the first spelling the other alternatives below never run, which these linters report
set_option linter.unusedTactic false
set_option linter.unreachableTactic false

variable (S : Fin 2 → Fin 3 → Fin 3 → ℂ)

/-- **exported points are reproduced, by pin**: at both sweep points the re-imported model has, between the pins that correspond
to the exported pins `a` and `b`, the exported coefficient `S k (row of a) (row of b)` - no transposition, no mix-up of columns -
without a mode mapping and with the mapping `TE -> (none), TM -> X` -/
theorem C14_src_nodes (a b : Fin 3) :
    plain_n0 S a b = S 0 (idx a) (idx b) ∧ plain_n1 S a b = S 1 (idx a) (idx b) ∧
    mapped_n0 S a b = S 0 (idx a) (idx b) ∧ mapped_n1 S a b = S 1 (idx a) (idx b) := by
  fin_cases a <;> fin_cases b <;>
    first
    | exact ⟨dec_eq _, dec_eq _, dec_eq _, dec_eq _⟩
    | exact ⟨dec'_eq _, dec'_eq _, dec'_eq _, dec'_eq _⟩
    | exact ⟨dec2_eq _, dec2_eq _, dec2_eq _, dec2_eq _⟩
    | exact ⟨dec3_eq _, dec3_eq _, dec3_eq _, dec3_eq _⟩

/-- **linear in between**: half way between the two exported points every coefficient is the mean of the exported ones -/
theorem C14_src_midpoint (a b : Fin 3) :
    plain_mid S a b = ((1 / 2 : ℝ) : ℂ) * S 0 (idx a) (idx b) + ((1 / 2 : ℝ) : ℂ) * S 1 (idx a) (idx b) ∧
    mapped_mid S a b = ((1 / 2 : ℝ) : ℂ) * S 0 (idx a) (idx b) + ((1 / 2 : ℝ) : ℂ) * S 1 (idx a) (idx b) := by
  fin_cases a <;> fin_cases b <;>
    first
    | exact ⟨dec_mid _ _, dec_mid _ _⟩
    | exact ⟨dec'_mid _ _, dec'_mid _ _⟩
    | exact ⟨dec2_mid _ _, dec2_mid _ _⟩
    | exact ⟨dec3_mid _ _, dec3_mid _ _⟩

/-- the pins of the re-imported model: the exported names without a mapping; with the mode mapping every pin is kept, `TE`
dropped from the name and `TM` renamed to `X` - each on its own matrix row (which row is immaterial: the import enumerates the
base names of a set) -/
theorem C14_src_pins :
    plain_pins.map (·.1) = ["p_TE", "p_TM", "q_TE"] ∧ mapped_pins.map (·.1) = ["p", "p_X", "q"] ∧
    (plain_pins.map (·.2)).Perm [0, 1, 2] ∧ (mapped_pins.map (·.2)).Perm [0, 1, 2] := by decide

end Source

end C14
