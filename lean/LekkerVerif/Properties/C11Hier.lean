import LekkerVerif.Properties.C11
import LekkerVerif.Core.HierFlattenSpec

/-! # C11 (continued) — `flatten()` preserves the scattering matrix, on the executable hierarchy

`HNet.flatten` (Core/HierFlatten.lean) is the function the driver runs for the op `hflatten`, whose output is compared with
the structures, connections and exposures the real `flatten()` leaves behind.  The theorems hold for every depth and branching
and for every pair of merge schedules. -/

variable {F : Type} [Field F] [DecidableEq F]

/-- **flatten() preserves the scattering matrix**: the hierarchical solve and the solve of the flattened circuit, with whatever
merge schedules, expose the same pin names and carry the same coefficient between every pair of them -/
theorem C11_flatten_preserves_matrix (s s' : List (St F) → Option (Nat × Nat)) (h : HNet F) (w : HNet.WFTree h)
    (c c' : CompD F) (hs : HNet.solveH s h = .ok c) (hs' : HNet.solveH s' h.flatten = .ok c') :
    c'.pins = c.pins ∧ ∀ x ∈ c.pins, ∀ y ∈ c.pins, c'.sem x y = c.sem x y :=
  HNet.flatten_preserves s s' h w c c' hs hs'

/-- the flattened circuit is again well formed (every link lands on existing, distinct, free leaf pins; names distinct) -/
theorem C11_flatten_wellformed (h : HNet F) (w : HNet.WFTree h) : HNet.WFTree h.flatten :=
  w.flatten

/-- no sub-solver is left: every child of the flattened circuit is a leaf component — for every description -/
theorem C11_flatten_is_flat (h : HNet F) : HNet.IsFlat h.flatten :=
  HNet.flatten_isFlat h

/-- the components are exactly the leaf components of the hierarchy, in depth-first order, each placement once -/
theorem C11_flatten_components (h : HNet F) : (HNet.leaves h.flatten).map (·.2) = (HNet.leaves h).map (·.2) :=
  HNet.leaves_flatten_comps h

theorem C11_flatten_idempotent (h : HNet F) : h.flatten.flatten = h.flatten :=
  HNet.flatten_idem h
