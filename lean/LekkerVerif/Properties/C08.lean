import LekkerVerif.Core.Energy
import LekkerVerif.Proofs.KernelTie

/-! # C08 — composition preserves energy conservation, passivity and reciprocity

Kernel level (the regenerated `Generated.add`, any field / any power functional / any pairing) and network
level (the executable `solveWith`, any schedule): reciprocity, losslessness (hence unitarity `Tᴴ T = 1` over a
star field) and passivity are carried through the elimination loop by `NetD.solveWith_preserves`. -/

open Matrix

section kernel
variable {F : Type*} [Field F]
variable {n k m : Type*} [Fintype n] [Fintype k] [Fintype m] [DecidableEq n] [DecidableEq k] [DecidableEq m]

/-- reciprocity (`[[S21,S22],[S11,S12]]` symmetric) is preserved by the star product -/
theorem C08_star_reciprocal (A : SM F n k) (B : SM F k m) (h : IsUnit (1 - A.S12 * B.S21))
    (hA : A.Reciprocal) (hB : B.Reciprocal) : (Generated.add A B).Reciprocal := by
  rw [Generated.add_eq]; exact star_reciprocal A B h hA hB

/-- passivity with respect to arbitrary power functionals on the three port groups is preserved -/
theorem C08_star_passive {R : Type*} [AddCommGroup R] [PartialOrder R] [IsOrderedAddMonoid R]
    (A : SM F n k) (B : SM F k m) (h : IsUnit (1 - A.S12 * B.S21))
    (pn : (n → F) → R) (pk : (k → F) → R) (pm : (m → F) → R)
    (hA : A.PassiveWrt pn pk) (hB : B.PassiveWrt pk pm) : (Generated.add A B).PassiveWrt pn pm := by
  rw [Generated.add_eq]; exact star_passive A B h pn pk pm hA hB

/-- losslessness with respect to arbitrary pairings is preserved -/
theorem C08_star_lossless {R : Type*} [AddCommGroup R]
    (A : SM F n k) (B : SM F k m) (h : IsUnit (1 - A.S12 * B.S21))
    (ipn : (n → F) → (n → F) → R) (ipk : (k → F) → (k → F) → R) (ipm : (m → F) → (m → F) → R)
    (hA : A.LosslessWrt ipn ipk) (hB : B.LosslessWrt ipk ipm) : (Generated.add A B).LosslessWrt ipn ipm := by
  rw [Generated.add_eq]; exact star_lossless A B h ipn ipk ipm hA hB

end kernel

section unitary
variable {K : Type*} [Field K] [StarRing K]
variable {n k m : Type*} [Fintype n] [Fintype k] [Fintype m] [DecidableEq n] [DecidableEq k] [DecidableEq m]

/-- the star product of two partitioned matrices that assemble to unitary matrices assembles to a
unitary matrix (`Sᴴ S = 1`), over any field with a star (in particular ℂ) -/
theorem C08_star_unitary (A : SM K n k) (B : SM K k m) (h : IsUnit (1 - A.S12 * B.S21))
    (hA : A.assembleᴴ * A.assemble = 1) (hB : B.assembleᴴ * B.assemble = 1) :
    (Generated.add A B).assembleᴴ * (Generated.add A B).assemble = 1 := by
  rw [Generated.add_eq]
  exact unitary_of_lossless _ (star_lossless A B h _ _ _ (lossless_of_unitary A hA) (lossless_of_unitary B hB))

end unitary

section network
variable {F : Type} [Field F] [DecidableEq F]

/-- **network level, any schedule**: a circuit of reciprocal components is reciprocal -/
theorem C08_reciprocal (net : NetD F) (wf : net.WF) (sched) (total : St F)
    (h : net.solveWith sched = .ok total) (hr : ∀ s ∈ net.initial, s.Recip) :
    ∀ p ∈ total.pins, ∀ q ∈ total.pins, total.sem p q = total.sem q p :=
  NetD.solveWith_preserves net wf St.Recip St.join_recip sched total h hr

/-- **network level, any schedule, any pairing**: a circuit of lossless components is lossless: for all input
assignments `a, a'` on the free pins, `Σ φ (out a') (out a) = Σ φ a' a` over the pins of the solved structure
(the free pins of the circuit) -/
theorem C08_lossless {R : Type*} [AddCommGroup R] (φ : F → F → R) (net : NetD F) (wf : net.WF) (sched) (total : St F)
    (h : net.solveWith sched = .ok total) (hl : ∀ s ∈ net.initial, s.LosslessW φ) : total.LosslessW φ :=
  NetD.solveWith_preserves net wf (St.LosslessW φ)
    (St.join_of_part (fun A => A.LosslessWrt (ipφ φ) (ipφ φ)) (St.losslessW_iff_part φ)
      fun A B h => star_lossless A B h _ _ _) sched total h hl

/-- **network level, any schedule, any power functional**: a circuit of passive components never shows gain:
`Σ w (out a p) ≤ Σ w (a p)` over the free pins (with `w z = |z|²` over ℂ: output power ≤ input power; exposing only
some of the free pins only drops non-negative terms on the left and sets inputs to zero on the right) -/
theorem C08_passive {R : Type*} [AddCommGroup R] [PartialOrder R] [IsOrderedAddMonoid R] (w : F → R)
    (net : NetD F) (wf : net.WF) (sched) (total : St F)
    (h : net.solveWith sched = .ok total) (hl : ∀ s ∈ net.initial, s.PassiveW w) : total.PassiveW w :=
  NetD.solveWith_preserves net wf (St.PassiveW w)
    (St.join_of_part (fun A => A.PassiveWrt (pwφ w) (pwφ w)) (St.passiveW_iff_part w)
      fun A B h => star_passive A B h _ _ _) sched total h hl

end network

section network_unitary
variable {K : Type} [Field K] [StarRing K] [DecidableEq K]

/-- **network-level unitarity, any schedule**: if every component is lossless for the pairing `star x * y`
(i.e. its matrix is unitary on its pins), the solved matrix `T` over the circuit's free pins satisfies
`Σ_p star (T p x) * T p y = δ_xy` — `Tᴴ T = 1`, total output power equals total input power -/
theorem C08_unitary (net : NetD K) (wf : net.WF) (sched) (total : St K)
    (h : net.solveWith sched = .ok total)
    (hl : ∀ s ∈ net.initial, s.LosslessW (fun x y : K => star x * y)) :
    ∀ x ∈ total.pins, ∀ y ∈ total.pins,
      (total.pins.map fun p => star (total.sem p x) * total.sem p y).sum = if x = y then 1 else 0 := by
  intro x hx y hy
  have hL := C08_lossless (fun x y : K => star x * y) net wf sched total h hl
  have hnd := NetD.solveWith_nodup net wf sched total h
  have key := hL (fun q => if q = y then 1 else 0) (fun q => if q = x then 1 else 0)
  -- a unit input at `z` puts out column `z`
  have ho : ∀ z ∈ total.pins, ∀ p, total.out (fun q => if q = z then (1 : K) else 0) p = total.sem p z :=
    fun z hz p => sum_indicator total.pins hnd (fun q => total.sem p q) hz
  unfold pairL at key
  simp only [ho x hx, ho y hy] at key
  rw [key]
  refine (sum_indicator total.pins hnd (fun p => star (if p = x then (1 : K) else 0)) hy).trans ?_
  rw [apply_ite star, star_one, star_zero]
  exact if_congr eq_comm rfl rfl

end network_unitary
