import LekkerVerif.Proofs.Compose

/-! # C11 — flatten() preserves the scattering matrix and every parameter's meaning

Over placement trees: what ends up where, and termination.  Over rename tables: the single table the (repaired)
`flatten_top_level` writes for a lifted structure acts on every visible parameter like the two nested renamings of
C05 (`C11_compose_general`); the scenarios that failed on the pinned tree are evaluated in the kernel. -/

namespace Flatten

theorem leavesList_append (a b : List Tree) : leavesList (a ++ b) = leavesList a ++ leavesList b := by
  induction a with
  | nil => rw [List.nil_append, leavesList, List.nil_append]
  | cons x a ih => rw [List.cons_append, leavesList, leavesList, ih, List.append_assoc]

theorem leavesList_inline (cs : List Tree) : leavesList (cs.flatMap expandChild) = leavesList cs := by
  induction cs with
  | nil => rfl
  | cons c cs ih =>
    rw [List.flatMap_cons, leavesList_append, ih, leavesList]
    cases c with
    | model i => rw [expandChild, leavesList, leavesList, List.append_nil]
    | solver ccs => rw [expandChild, leaves]

/-- **one level of inlining keeps exactly the placed models, in order** (nothing lost, nothing duplicated) -/
theorem C11_inline_keeps_components (t : Tree) : leaves (inlineTop t) = leaves t := by
  cases t with
  | model i => rfl
  | solver cs => rw [inlineTop, leaves, leaves, leavesList_inline]

/-- **flatten keeps exactly the placed models** -/
theorem C11_flatten_keeps_components (n : Nat) (t : Tree) : leaves (flattenFuel n t) = leaves t := by
  induction n generalizing t with
  | zero => rfl
  | succ n ih =>
    rw [flattenFuel]
    split
    · rfl
    · rw [ih, C11_inline_keeps_components]

theorem depthList_cons (c : Tree) (cs : List Tree) :
    depthList (c :: cs) = max (match c with | .model _ => 0 | .solver ccs => depthList ccs + 1) (depthList cs) := by
  cases c <;> rw [depthList]

theorem depthList_append (a b : List Tree) : depthList (a ++ b) = max (depthList a) (depthList b) := by
  induction a with
  | nil => rw [List.nil_append, depthList, Nat.zero_max]
  | cons x a ih => rw [List.cons_append, depthList_cons, depthList_cons, ih, Nat.max_assoc]

theorem depth_inline_list (cs : List Tree) :
    depthList (cs.flatMap expandChild) = depthList cs - 1 := by
  induction cs with
  | nil => rw [List.flatMap_nil, depthList]
  | cons c cs ih =>
    rw [List.flatMap_cons, depthList_cons]
    cases c with
    | model i => rw [expandChild, List.singleton_append, depthList_cons, ih, Nat.zero_max, Nat.zero_max]
    | solver ccs => rw [expandChild, depthList_append, ih, ← Nat.sub_max_sub_right, Nat.add_sub_cancel]

/-- each round removes one level of nesting -/
theorem C11_inline_depth (cs : List Tree) : depth (inlineTop (.solver cs)) = depth (.solver cs) - 1 := by
  rw [inlineTop, depth, depth, depth_inline_list]

theorem flat_of_depth_zero (cs : List Tree) (h : depthList cs = 0) : flat (.solver cs) = true := by
  induction cs with
  | nil => rfl
  | cons c cs ih =>
    rw [depthList_cons] at h
    cases c with
    | model i =>
      rw [flat, List.all_cons, isModel, Bool.true_and]
      exact ih (Nat.max_eq_zero_iff.1 h).2
    | solver ccs => exact absurd (Nat.max_eq_zero_iff.1 h).1 (Nat.succ_ne_zero _)

/-- **termination / no sub-solvers**: as many rounds as the nesting depth suffice, and the result has no
solver-backed structure -/
theorem C11_no_subsolvers (cs : List Tree) (n : Nat) (hn : depthList cs ≤ n) :
    flat (flattenFuel n (.solver cs)) = true := by
  induction n generalizing cs with
  | zero => exact flat_of_depth_zero cs (Nat.le_zero.1 hn)
  | succ n ih =>
    rw [flattenFuel]
    split
    · assumption
    · rw [inlineTop]
      apply ih
      rw [depth_inline_list]; exact Nat.sub_le_of_le_add hn

/-- a lower structure that shields `pb` (it renames pb → pb_v) does *not* receive the parent's rename pb → pb_u -/
theorem C11_compose_shielded :
    composeTables [("pb_u", "pb")] [("pb_v", "pb")] = [("pb_v", "pb")] ∧
    composeTables [("pb_u", "pb")] [] = [("pb_u", "pb")] := by decide

/-- composition across two levels, chain and swap -/
theorem C11_compose_chain_swap :
    composeTables [("T", "M")] [("M", "B")] = [("T", "B")] ∧
    composeTables [("A", "B"), ("B", "A")] [("B", "x")] = [("A", "x"), ("B", "A")] ∧
    -- the swap that lost an entry on the pinned tree: parent (A → B_r, B_r → A) over lower (B → B_r)
    composeTables [("B_r", "A"), ("A", "B_r")] [("B_r", "B")] = [("A", "B"), ("B_r", "A")] := by decide

/-- on these tables the composed table acts, on the parameter the lower structure owns, like the two renamings
applied one after the other (C05) -/
example : ∀ x ∈ ["pb"],
    (renameFixed (composeTables [("pb_u", "pb")] [("pb_v", "pb")]) (⟨[("pb_u", 1), ("pb_v", 2), ("pb", 3)]⟩ : Dict Nat)).get? x
      = (renameFixed [("pb_v", "pb")] (renameFixed [("pb_u", "pb")] (⟨[("pb_u", 1), ("pb_v", 2), ("pb", 3)]⟩ : Dict Nat))).get? x := by
  decide

/-- **flatten composes rename tables correctly** (general): parent table `P` (top ↦ middle) over lower table `L`
(middle ↦ bottom), both injective (distinct new names, distinct old names), the parent's new names not colliding with
a name the lower structure makes visible unless the parent renames that name away (C05's "injective renaming");
then for every dictionary `d` of top-level values and every bottom parameter `x` visible one level up under the
name `m`, the table written by `flatten_top_level` gives `x` the value the two nested renamings give it -/
theorem C11_compose_general {V : Type} (P L : Table) (d : Dict V)
    (hPo : (P.map (·.2)).Nodup) (hPn : (P.map (·.1)).Nodup) (hLo : (L.map (·.2)).Nodup) (hLn : (L.map (·.1)).Nodup)
    (hinj : ∀ t ∈ P.map (·.1), t ∈ L.map (·.1) → t ∈ P.map (·.2))
    (x m : String) (hm : midName L x = some m) (hx : m ∈ P.map (·.1) → m ∈ P.map (·.2)) :
    (renameFixed (composeTables P L) d).get? x = (renameFixed L (renameFixed P d)).get? x :=
  compose_general P L d hPo hPn hLo hLn hinj x m hm hx

/-- the composed table is again a table `update_params` applies as a simultaneous substitution, so the theorem
can be iterated level by level (deep hierarchies) -/
theorem C11_compose_wellformed (P L : Table)
    (hPo : (P.map (·.2)).Nodup) (hPn : (P.map (·.1)).Nodup) (hLo : (L.map (·.2)).Nodup) (hLn : (L.map (·.1)).Nodup)
    (hinj : ∀ t ∈ P.map (·.1), t ∈ L.map (·.1) → t ∈ P.map (·.2)) : ((composeTables P L).map (·.2)).Nodup :=
  compose_olds_nodup hPo hPn hLo hLn hinj

/-- non-vacuity: the hypotheses hold for a swap at the parent over a chain below (all four parameters visible) -/
example : let P : Table := [("A", "B"), ("B", "A")]; let L : Table := [("B", "x"), ("A", "y")]
    (P.map (·.2)).Nodup ∧ (P.map (·.1)).Nodup ∧ (L.map (·.2)).Nodup ∧ (L.map (·.1)).Nodup ∧
    (∀ t ∈ P.map (·.1), t ∈ L.map (·.1) → t ∈ P.map (·.2)) ∧ midName L "x" = some "B" ∧ midName L "y" = some "A" := by
  decide

/-- the injectivity hypothesis is needed, and it is C05's quantifier: a parent that renames `b` to a name `a` the
lower structure already exposes (without renaming `a` away) merges two parameters; the nested hierarchy then shields the
lower one while a single table cannot — the two sides differ on exactly such inputs -/
theorem C11_compose_needs_injective :
    (renameFixed (composeTables [("a", "b")] [("a", "b")]) (⟨[("a", 1)]⟩ : Dict Nat)).get? "b" = some 1 ∧
    (renameFixed [("a", "b")] (renameFixed [("a", "b")] (⟨[("a", 1)]⟩ : Dict Nat))).get? "b" = none := by decide

end Flatten
