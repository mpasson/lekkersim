import LekkerVerif.Model.Prune
import LekkerVerif.Proofs.WiringDetach

/-! # C19 — prune() removes exactly the dead branches and nothing else -/

namespace Prune

mutual
/-- **prune removes exactly the dead branches** — at every depth — and reports whether the solver itself is empty -/
theorem C19_removes_exactly (h : Hier) : prune h = (clean h, dead h) :=
  match h with
  | .model e => rfl
  | .solver cs => by
      rw [prune, clean, dead, (pruneList_spec cs).1, (pruneList_spec cs).2]
theorem pruneList_spec : ∀ cs : List Hier, pruneList cs = cleanList cs ∧ (cleanList cs).isEmpty = deadAll cs
  | [] => ⟨rfl, rfl⟩
  | c :: cs => by
      rw [pruneList, cleanList, deadAll, C19_removes_exactly c, (pruneList_spec cs).1]
      cases dead c
      · exact ⟨rfl, rfl⟩
      · exact ⟨rfl, (pruneList_spec cs).2⟩
end

mutual
theorem clean_no_dead : ∀ h : Hier, dead h = false → dead (clean h) = false
  | .model e => id
  | .solver cs => by rw [clean, dead, dead]; exact cleanList_no_dead cs
theorem cleanList_no_dead : ∀ cs : List Hier, deadAll cs = false → deadAll (cleanList cs) = false
  | [] => by rw [deadAll]; exact Bool.noConfusion
  | c :: cs => by
      rw [cleanList, deadAll]
      cases hc : dead c
      · intro _
        rw [if_neg Bool.false_ne_true, deadAll, clean_no_dead c hc]; rfl
      · rw [if_pos rfl, Bool.true_and]; exact cleanList_no_dead cs
end

/-- a solver that is not dead is not dead after pruning (it keeps something) -/
theorem C19_nothing_dead_left (h : Hier) (hd : dead h = false) : dead (prune h).1 = false := by
  rw [C19_removes_exactly]; exact clean_no_dead h hd

mutual
theorem clean_id : ∀ h : Hier, noDead h = true → clean h = h
  | .model e => fun _ => rfl
  | .solver cs => by rw [noDead, clean]; exact fun hn => congrArg _ (cleanList_id cs hn)
theorem cleanList_id : ∀ cs : List Hier, noDeadList cs = true → cleanList cs = cs
  | [] => fun _ => rfl
  | c :: cs => by
      rw [noDeadList, cleanList, Bool.and_eq_true, Bool.and_eq_true, Bool.not_eq_true']
      intro hn
      rw [hn.1.1, if_neg Bool.false_ne_true, clean_id c hn.1.2, cleanList_id cs hn.2]
end

/-- **nothing else is touched**: a hierarchy without dead branches is left exactly as it is -/
theorem C19_keeps_live (h : Hier) (hn : noDead h = true) : (prune h).1 = h := by
  rw [C19_removes_exactly]; exact clean_id h hn

mutual
theorem noDead_clean : ∀ h : Hier, noDead (clean h) = true
  | .model e => rfl
  | .solver cs => by rw [clean, noDead]; exact noDeadList_clean cs
theorem noDeadList_clean : ∀ cs : List Hier, noDeadList (cleanList cs) = true
  | [] => rfl
  | c :: cs => by
      rw [cleanList]
      cases hc : dead c
      · rw [if_neg Bool.false_ne_true, noDeadList, clean_no_dead c hc, noDead_clean c, noDeadList_clean cs]; rfl
      · rw [if_pos rfl]; exact noDeadList_clean cs
end

/-- after pruning no dead placement is left at any depth -/
theorem C19_no_dead_anywhere (h : Hier) : noDead (prune h).1 = true := by
  rw [C19_removes_exactly]; exact noDead_clean h

theorem C19_idempotent (h : Hier) : (prune (prune h).1).1 = (prune h).1 :=
  C19_keeps_live _ (C19_no_dead_anywhere h)

example : (prune (.solver [.model true, .solver [.model true, .solver []], .model false, .solver [.model false, .model true]])).2 = false := by
  decide
example : dead (.solver [.model true, .solver [.model true, .solver []]]) = true := by decide

end Prune

/-- `prune()` drops a dead placement with `remove_structure`; a placed model without pins has no connection, so in every
consistent wiring state the solver's connections, connection list and free pins are exactly what they were: the
surviving structures keep their wiring and their free pins (hence the pruned solver solves like the clean build, C07) -/
theorem C19_survivor_wiring_untouched (w : Wiring.W) (inv : Wiring.WInv w) (i : Nat) (o : Wiring.SObj)
    (hs : i ∈ w.structs) (ho : Wiring.getObj w i = some o) (hp : o.pins = []) :
    (Wiring.removeStruct w i).1.conns = w.conns ∧ (Wiring.removeStruct w i).1.clist = w.clist ∧
    (Wiring.removeStruct w i).1.free = w.free ∧ (Wiring.removeStruct w i).1.structs = w.structs.erase i ∧
    Wiring.WInv (Wiring.removeStruct w i).1 := by
  obtain ⟨h1, h2, h3, h4⟩ := Wiring.remove_pinless w inv i o hs ho hp
  exact ⟨h1, h2, h3, h4, Wiring.step_inv w inv (.remove i)⟩
