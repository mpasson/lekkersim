import LekkerVerif.Core.Complete
import LekkerVerif.Core.Sched
import LekkerVerif.Properties.C18
import LekkerVerif.Core.DefinedLoop

-- `Core.Complete` and `Core.Sched` stand first although `DefinedLoop` brings them: the order of the imports decides which of two
-- instance paths `Sub F` takes in the statement of `C01_join_defined_iff` (through `Field F`, or through `fieldScalar`).

/-! # C01 — the solved S-matrix is the exact solution of the network equations

`NetD.solveWith sched net` is the executable transcription of `Solver.solve` (elimination loop over
`Structure.join`) for an arbitrary merge schedule; the native driver runs exactly this function and
the correspondence check compares it with the real package.  `NetD.Sol` is the network relation:
every component's scattering equation, `a p = b q ∧ a q = b p` for every accepted link, and no
incoming wave at an unexposed free pin.  Everything holds over every field and for every schedule. -/

open NetD

variable {F : Type} [Field F] [DecidableEq F]

/-- one merge: the merged structure's equation holds for every wave assignment that satisfies both
parts' equations and the equations of the links between them; its pins are the unlinked pins -/
theorem C01_join_sound (self st c : St F) (newId : Nat)
    (hs : self.pins.Nodup) (ht : st.pins.Nodup) (hd : ∀ p, p ∈ self.pins → p ∈ st.pins → False)
    (h : St.join self st newId = .ok c) :
    ∃ links : List (PinRef × PinRef), St.linkPins self st = .ok links ∧
      c.pins = self.pins.filter (fun p => !(links.map (·.1)).contains p)
                ++ st.pins.filter (fun p => !(links.map (·.2)).contains p) ∧
      ∀ a b : PinRef → F, Eqn self.pins self.sem a b → Eqn st.pins st.sem a b →
        (∀ l ∈ links, a l.1 = b l.2 ∧ a l.2 = b l.1) → Eqn c.pins c.sem a b :=
  St.join_sound self st c newId hs ht hd h

/-- **main theorem**: for every well-formed network, every exposure of free pins and every merge
schedule, if `solve` returns then the returned coefficients are the solution operator of the network
equations: every solution has the predicted outputs, and every excitation is realised by a solution -/
theorem C01_solve_solves (net : NetD F) (wf : net.WF) (ex : net.ExposureOK) (sched) (total : St F)
    (h : net.solveWith sched = .ok total) : net.SolvedBy total.sem :=
  solveWith_solves net wf ex sched total h

/-- the solution operator is unique on the exposed pins: any two operators that solve the same
network agree (so "the unique solution of the network equations" is well defined) -/
theorem C01_solution_unique (net : NetD F) (hn : (net.exposed.map (·.2)).Nodup) (T T' : PinRef → PinRef → F)
    (h : net.SolvedBy T) (h' : net.SolvedBy T') :
    ∀ x ∈ net.exposed, ∀ y ∈ net.exposed, T x.2 y.2 = T' x.2 y.2 :=
  readout_unique net hn T T' h.1 h'.1 h.2

/-- a connection the model accepted is never left out: when `solve` returns, no pin of the final
structure is an end of a link (all links were eliminated), and every link is a conjunct of `Sol` -/
theorem C01_every_link_used (net : NetD F) (wf : net.WF) (sched) (total : St F)
    (h : net.solveWith sched = .ok total) :
    (∀ p ∈ total.pins, ∀ q, ¬ net.Lnk p q) ∧
    (∀ a b, net.Sol a b → ∀ l ∈ net.links, a l.1 = b l.2 ∧ a l.2 = b l.1) :=
  ⟨(solveWith_sound net wf sched total h).2, fun _ _ hs l hl => hs.link l hl⟩

/-- the kernel used inside `join` is the regenerated one (link to the translator-tied kernel) -/
theorem C01_kernel_is_generated {K : Type} [Field K] [DecidableEq K] (A B C : SMat K) (hA : A.WF) (hB : B.WF)
    (h : A.add? B = .ok C) :
    C.toSM A.N B.M = Generated.add (A.toSM A.N A.M) (B.toSM A.M B.M) :=
  (C18_exec_refines A B C hA hB h).2.2.2

/-- **definedness**: on a well-formed network with at least one component (every pin name of every component has a
matrix index), the elimination — with *any* valid merge schedule — either returns a model or fails because one inner
system `1 - S12 * S21` is singular.  No bookkeeping failure (a missing pin, an unmatched link, a shape mismatch in the
kernel, an exhausted loop) is reachable: "a connection the API accepted is never silently left out" has no
error-path exception either. -/
theorem C01_only_failure_is_singular (net : NetD F) (wf : net.WF) (hidx : net.IdxWF) (hne : net.comps ≠ [])
    (sched) (hv : Solve.ValidSched sched) :
    (∃ total, net.solveWith sched = .ok total) ∨ net.solveWith sched = .error .singular :=
  NetD.solveWith_defined net wf hidx hne sched hv

/-- … in particular with the pin-count heuristic the code uses (which is a valid schedule) -/
theorem C01_only_failure_is_singular_heuristic (net : NetD F) (wf : net.WF) (hidx : net.IdxWF) (hne : net.comps ≠ [])
    (e : Err) (h : net.solveWith Solve.pySched = .error e) : e = .singular :=
  (NetD.solveWith_defined net wf hidx hne Solve.pySched Solve.validSched_pySched).elim
    (fun ⟨_, ht⟩ => nomatch ht.symm.trans h) fun hs => Except.error.inj (h.symm.trans hs)

/-- one merge on a consistent elimination state succeeds exactly when its inner system is invertible -/
theorem C01_join_defined_iff (L : PinRef → PinRef → Prop) (B : Nat) (hsym : ∀ p q, L p q → L q p)
    (s t : St F) (n : Nat) (bs : Solve.Book L B s) (bt : Solve.Book L B t) (cs : Solve.ConnL L s)
    (hm : ∀ k, k ∈ St.membersOf s → k ∈ St.membersOf t → False) (is : Solve.Idx s) (it : Solve.Idx t) :
    ∃ (A B' : SMat F),
      ((∃ c, St.join s t n = .ok c) ↔ IsUnit (1 - (A.toSM A.N A.M).S12 * (B'.toSM A.M B'.M).S21)) ∧
      ∀ e, St.join s t n = .error e → e = .singular := by
  obtain ⟨_, _, _, A, B', _, _, _, _, _, h1, _, h3⟩ := St.join_defined L B hsym s t n bs bt cs hm is it
  exact ⟨A, B', h1, h3⟩

/-- a through connection: `[[0, 1], [1, 0]]` -/
def cNV : CompD ℚ := { pins := ["a", "b"], idx := [("a", 0), ("b", 1)], S := ⟨2, 2, #[0, 1, 1, 0]⟩ }
/-- a two-component network with one link.  Properties/C01Checked.lean witnesses `IdxWF`, `WF` and `comps ≠ []` on it, the
hypotheses of the definedness theorems (not `ExposureOK`); Properties/C07Net.lean reaches its links and exposure by an edit
history -/
def netNV : NetD ℚ := { comps := [cNV, cNV], links := [((0, "b"), (1, "a"))], exposed := [("in", (0, "a")), ("out", (1, "b"))] }
