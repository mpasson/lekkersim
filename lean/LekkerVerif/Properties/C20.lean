import Mathlib.Analysis.CStarAlgebra.Matrix
import LekkerVerif.Core.Contractive
import LekkerVerif.Core.HierSound
import LekkerVerif.Core.WFCheckSpec
import LekkerVerif.Proofs.KernelTie

/-! # C20 — accuracy and success do not degrade with circuit size or depth

What a theorem can say: exact, size-generic facts about the composition — the closed form of a cascade of any
length, boundedness of every intermediate composite for passive parts, definedness of every merge for strictly
passive parts - lifted to the whole elimination: a network of strictly passive parts of *any size* solves, with any valid
schedule, and the result is again strictly passive; a hierarchy of *any depth* solves to the operator of the flat
circuit.  Floating-point accuracy at scale, recursion limits and run time are measured by the harness (cascades of 2000,
meshes, resonant chains, 60-level nests) and labelled as tests. -/

open Matrix

namespace ContractiveExample

/-- a reciprocal, reflection-free two-port attenuator with amplitude transmission `1/2`: `[[0, 1/2], [1/2, 0]]` -/
noncomputable def halfAttenuator : CompD ℂ :=
  { pins := ["a", "b"], idx := [("a", 0), ("b", 1)], S := ⟨2, 2, #[0, 1 / 2, 1 / 2, 0]⟩ }

/-- two attenuators in series: pin `b` of the first linked to pin `a` of the second -/
noncomputable def twoHalfAttenuators : NetD ℂ :=
  { comps := [halfAttenuator, halfAttenuator]
    links := [((0, "b"), (1, "a"))]
    exposed := [("in", (0, "a")), ("out", (1, "b"))] }

/-- an attenuator is `1/4`-contractive (power transmission `(1/2)² = 1/4`), wherever it sits in a network -/
theorem contr_halfAttenuator (net : NetD ℂ) (k : Nat) : Contr (1 / 4) (net.mkSt k halfAttenuator) := by
  obtain ⟨h1, h2, h3, h4⟩ := CompD.sem_crossed (1 / 2 : ℂ) halfAttenuator rfl
  rw [contr_iff, St.contr_iff_out]
  intro a
  have p : halfAttenuator.pins = ["a", "b"] := rfl
  have hn : nsq (1 / 2) = 1 / 4 := by
    rw [nsq, Complex.norm_div, Complex.norm_two, ← Nat.cast_one, Complex.norm_natCast]; norm_num
  simp only [sumL, CompD.sum_mkSt, CompD.mkSt_out, CompD.out, p, List.map_cons, List.map_nil, List.sum_cons,
    List.sum_nil, h1, h2, h3, h4, zero_mul, zero_add, add_zero, nsq_mul, hn]
  exact le_of_eq (by ring)

theorem twoHalfAttenuators_wf : twoHalfAttenuators.WF := (NetD.wfB_iff _).1 (by decide)

theorem twoHalfAttenuators_idxWF : twoHalfAttenuators.IdxWF := (NetD.idxB_iff _).1 (by decide)

theorem twoHalfAttenuators_contr : ∀ s ∈ twoHalfAttenuators.initial, Contr (1 / 4) s :=
  NetD.forall_initial.2 fun k c hk => by
    obtain rfl : c = halfAttenuator := by simpa [twoHalfAttenuators] using List.mem_of_getElem? hk
    exact contr_halfAttenuator _ k

/-- **non-vacuity**: the hypotheses of `C20_strictly_passive_network_solves` are satisfiable by a network in which a merge
really takes place; the two attenuators in series solve under every valid schedule, and the result is `1/4`-contractive -/
example (sched) (hv : Solve.ValidSched sched) :
    ∃ total, twoHalfAttenuators.solveWith sched = .ok total ∧ Contr (1 / 4) total :=
  NetD.solveWith_ok_of_contr nsq nsq_nonneg nsq_zero nsq_definite twoHalfAttenuators twoHalfAttenuators_wf
    twoHalfAttenuators_idxWF (List.cons_ne_nil _ _) (1 / 4) (by norm_num) (by norm_num) twoHalfAttenuators_contr sched hv

end ContractiveExample

section cascade
variable {F : Type*} [Field F]

/-- a reflection-free two-port with forward transmission `t` and backward transmission `t'` -/
def thru (t t' : F) : SM F (Fin 1) (Fin 1) :=
  { S11 := Matrix.of fun _ _ => t, S22 := Matrix.of fun _ _ => t', S12 := 0, S21 := 0 }

theorem of_const_mul (x y : F) :
    (Matrix.of fun _ _ : Fin 1 => x) * (Matrix.of fun _ _ : Fin 1 => y) = Matrix.of fun _ _ => x * y := by
  ext i j
  exact (Matrix.mul_apply ..).trans (Fin.sum_univ_one _)

theorem thru_add (a a' b b' : F) : Generated.add (thru a a') (thru b b') = thru (b * a) (a' * b') := by
  rw [Generated.add_eq]
  unfold SM.add thru
  simp only [Matrix.zero_mul, Matrix.mul_zero, sub_zero, inv_one, Matrix.mul_one, add_zero]
  congr 1 <;> exact of_const_mul _ _

/-- cascade of a list of reflection-free two-ports, merged one by one -/
noncomputable def cascade (ts : List (F × F)) : SM F (Fin 1) (Fin 1) :=
  ts.foldl (fun acc t => Generated.add acc (thru t.1 t.2)) (thru 1 1)

theorem cascade_eq_aux (ts : List (F × F)) (a a' : F) :
    ts.foldl (fun acc t => Generated.add acc (thru t.1 t.2)) (thru a a')
      = thru ((ts.map (·.1)).prod * a) (a' * (ts.map (·.2)).prod) := by
  induction ts generalizing a a' with
  | nil => simp
  | cons t ts ih =>
    simp only [List.foldl, thru_add, ih, List.map_cons, List.prod_cons, mul_assoc, mul_left_comm]

/-- **closed form for every length**: the cascade of `n` reflection-free two-ports is the reflection-free two-port
whose transmissions are the products — by induction on `n`, no bound on the size -/
theorem C20_cascade (ts : List (F × F)) :
    cascade ts = thru (ts.map (·.1)).prod (ts.map (·.2)).prod := by
  unfold cascade
  rw [cascade_eq_aux]
  simp

end cascade

section bounded
variable {F : Type*} [Field F]
variable {n k m : Type*} [Fintype n] [Fintype k] [Fintype m] [DecidableEq n] [DecidableEq k] [DecidableEq m]

/-- **boundedness**: merging passive parts gives a passive composite, whatever the size of the circuit so far — every
intermediate matrix of the elimination stays a contraction (no growth to overflow as in transfer-matrix recursions) -/
theorem C20_bounded {R : Type*} [AddCommGroup R] [PartialOrder R] [IsOrderedAddMonoid R]
    (A : SM F n k) (B : SM F k m) (h : IsUnit (1 - A.S12 * B.S21))
    (pn : (n → F) → R) (pk : (k → F) → R) (pm : (m → F) → R)
    (hA : A.PassiveWrt pn pk) (hB : B.PassiveWrt pk pm) : (Generated.add A B).PassiveWrt pn pm := by
  rw [Generated.add_eq]; exact star_passive A B h pn pk pm hA hB

end bounded

section defined
open scoped Matrix.Norms.L2Operator
variable {k : Type*} [Fintype k] [DecidableEq k]

/-- **definedness**: if the reflection blocks facing each other are strict contractions (strictly passive parts), the
inner system of the merge is invertible — the merge cannot fail, at any size -/
theorem C20_defined (X Y : Matrix k k ℂ) (hX : ‖X‖ ≤ 1) (hY : ‖Y‖ < 1) : IsUnit (1 - X * Y) :=
  isUnit_one_sub_of_norm_lt_one
    ((norm_mul_le X Y).trans_lt (mul_lt_one_of_nonneg_of_lt_one_right hX (norm_nonneg Y) hY))

end defined

section any_size
open NetD Solve

/-- **success at every size**: a well-formed, non-empty network over `ℂ` all of whose components are strictly passive
(outgoing power `≤ c ·` incoming power with `0 ≤ c < 1`: lossy parts) *always* solves - whatever the number of components,
the wiring (feedback loops included) and the valid merge schedule; no merge can meet a singular inner system, and the
result is again `c`-contractive (so is every intermediate composite: that is the invariant of the proof) -/
theorem C20_strictly_passive_network_solves (net : NetD ℂ) (wf : net.WF) (hidx : net.IdxWF) (hne : net.comps ≠ [])
    (c : ℝ) (h0 : 0 ≤ c) (hc : c < 1) (hpass : ∀ s ∈ net.initial, Contr c s)
    (sched) (hv : Solve.ValidSched sched) :
    ∃ total, net.solveWith sched = .ok total ∧ Contr c total :=
  NetD.solveWith_ok_of_contr nsq nsq_nonneg nsq_zero nsq_definite net wf hidx hne c h0 hc hpass sched hv

/-- … in particular with the pin-count heuristic of `Solver.solve` -/
theorem C20_strictly_passive_network_solves_heuristic (net : NetD ℂ) (wf : net.WF) (hidx : net.IdxWF)
    (hne : net.comps ≠ []) (c : ℝ) (h0 : 0 ≤ c) (hc : c < 1) (hpass : ∀ s ∈ net.initial, Contr c s) :
    ∃ total, net.solveWith Solve.pySched = .ok total ∧ Contr c total :=
  C20_strictly_passive_network_solves net wf hidx hne c h0 hc hpass _ Solve.validSched_pySched

/-- one merge of two strictly passive composites: defined, and strictly passive with the same factor -/
theorem C20_strictly_passive_merge (c : ℝ) (h0 : 0 ≤ c) (hc : c < 1) {n k m : Type*} [Fintype n] [Fintype k] [Fintype m]
    [DecidableEq n] [DecidableEq k] [DecidableEq m] (A : SM ℂ n k) (B : SM ℂ k m)
    (hA : A.ContrWrt c epow epow) (hB : B.ContrWrt c epow epow) :
    IsUnit (1 - A.S12 * B.S21) ∧ (Generated.add A B).ContrWrt c epow epow := by
  have hu := isUnit_of_contractive_pw nsq nsq_nonneg nsq_zero nsq_definite c h0 hc A B hA hB
  refine ⟨hu, ?_⟩
  rw [Generated.add_eq]
  exact star_contractive c hc.le A B hu epow epow epow (pwφ_nonneg nsq nsq_nonneg) hA hB

/-- **every depth**: the recursive solve of a well-formed hierarchy of any depth, when it returns, carries the solution
operator of the flat circuit (as in `C02_hier_exec_sound`; induction over the tree, no bound on the nesting) -/
theorem C20_any_depth {F : Type} [Field F] [DecidableEq F] (sched : List (St F) → Option (Nat × Nat)) (h : HNet F)
    (w : HNet.WFTree h) (c : CompD F) (hs : HNet.solveH sched h = .ok c) :
    ∃ T, h.flat.SolvedBy T ∧ ∀ x ∈ c.pins, ∀ y ∈ c.pins, T (h.resolve x) (h.resolve y) = c.sem x y := by
  obtain ⟨T, hT⟩ := HNet.solveH_flatInv sched w c hs
  exact ⟨T, hT.solved, hT.coeff⟩

/-- non-vacuity: two half-attenuators in a chain are a strictly passive, well-formed network -/
example (sched) (hv : Solve.ValidSched sched) :
    ∃ total, ContractiveExample.twoHalfAttenuators.solveWith sched = .ok total ∧ Contr (1 / 4) total :=
  C20_strictly_passive_network_solves _ ContractiveExample.twoHalfAttenuators_wf ContractiveExample.twoHalfAttenuators_idxWF
    (List.cons_ne_nil _ _) (1 / 4) (by norm_num) (by norm_num)
    ContractiveExample.twoHalfAttenuators_contr sched hv

end any_size
