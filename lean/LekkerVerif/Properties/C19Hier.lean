import LekkerVerif.Properties.C19
import LekkerVerif.Core.HierPruneSpec
import LekkerVerif.Core.HierPruneRec
import LekkerVerif.Core.WFCheckSpec

/-! # C19 (continued) — removing children that present no pins does not change what a level solves to

`HNet.pruneLevel` (Core/HierPrune.lean) drops, on one level, every child that presents no pin name to its parent (a model
without pins, a sub-solver that exposes nothing) and re-addresses links and exposures; it is `HNet.subLevel` on the set of
the other children, which no link leaves (a pin-less child cannot be the end of a link of a well-formed level).  Which branches
are dead, recursively, and that exactly those go, is the business of the `Prune` model (Properties/C19.lean); this file adds the matrix side
for the executable hierarchy: what survives solves to the same component. -/

variable {F : Type} [Field F] [DecidableEq F]

/-- **the matrix is unchanged**: the pruned level exposes the same names and carries the same coefficients, with any schedules -/
theorem C19_prune_preserves_matrix (s s' : List (St F) → Option (Nat × Nat)) (h : HNet F) (w : HNet.WFTree h)
    (c c' : CompD F) (hs : HNet.solveH s h = .ok c) (hs' : HNet.solveH s' h.pruneLevel = .ok c') :
    c'.pins = c.pins ∧ ∀ x ∈ c.pins, ∀ y ∈ c.pins, c'.sem x y = c.sem x y :=
  HNet.prune_preserves s s' h w c c' hs hs'

/-- exactly the pin-less children go, the others stay in order -/
theorem C19_prune_level_exact (cs : List (HNet F)) (links : List (PinRef × PinRef)) (exposed : List (String × PinRef)) :
    ∃ links' exposed', HNet.pruneLevel (.node cs links exposed) = .node (cs.filter fun h => !h.isDead) links' exposed' :=
  ⟨_, _, HNet.pruneLevel_node cs links exposed⟩

theorem C19_prune_level_wellformed (h : HNet F) (w : HNet.WFTree h) : HNet.WFTree h.pruneLevel :=
  HNet.WFTree.pruneLevel w

theorem C19_prune_level_idempotent (h : HNet F) (w : HNet.WFTree h) :
    HNet.pruneLevel (HNet.pruneLevel h) = HNet.pruneLevel h := by
  cases h with
  | leaf c => rfl
  | node cs links exposed =>
    -- every child of the pruned level is live, so its live set holds every position
    have w' := HNet.WFTree.pruneLevel w
    rw [HNet.pruneLevel_node] at w' ⊢
    refine HNet.subLevel_full w' _ fun i hi => (HNet.mem_liveSet _ i).2 ⟨_, List.getElem?_eq_getElem hi, ?_⟩
    simpa using (List.mem_filter.1 (List.getElem_mem hi)).2

/-- the same for any set of children that no link leaves (the general form behind split and prune) -/
theorem C19_closed_subset_behaves (s s' : List (St F) → Option (Nat × Nat)) (cs : List (HNet F))
    (links : List (PinRef × PinRef)) (exposed : List (String × PinRef)) (w : HNet.WFTree (.node cs links exposed))
    (c : CompD F) (hs : HNet.solveH s (.node cs links exposed) = .ok c) (g : List Nat)
    (hclosed : ∀ l ∈ links, l.1.1 < cs.length → l.2.1 < cs.length → (l.1.1 ∈ g ↔ l.2.1 ∈ g))
    (c' : CompD F) (hs' : HNet.solveH s' (HNet.subLevel cs links exposed g) = .ok c') :
    (∀ x ∈ c'.pins, x ∈ c.pins) ∧ ∀ x ∈ c'.pins, ∀ y ∈ c'.pins, c'.sem x y = c.sem x y :=
  HNet.subLevel_behaves_of_closed s s' cs links exposed w c hs g hclosed c' hs'

/-! The criterion of `Solver.prune()` itself is `HNet.emptyRec` (Core/HierPruneRec.lean): the code removes a component whose
model has no pins and a sub-solver whose own `prune()` returned `True` (everything under it went, all the way down). -/

/-- what `prune()` removes presents no pin to its parent (any depth, any branching) -/
theorem C19_removed_presents_no_pin {F : Type} (h : HNet F) (w : HNet.WFTree h) (he : h.emptyRec = true) :
    h.pinNames = [] :=
  (HNet.isDead_iff h).1 (HNet.emptyRec_isDead w he)

/-- every child that presents a pin survives `prune()`; no link of the level leaves the kept set -/
theorem C19_kept_set_closed {F : Type} (cs : List (HNet F)) (links : List (PinRef × PinRef)) (exposed : List (String × PinRef))
    (w : HNet.WFTree (.node cs links exposed)) :
    (∀ i ∈ HNet.liveSet cs, i ∈ HNet.keepSet cs) ∧ ∀ l ∈ links, (l.1.1 ∈ HNet.keepSet cs ↔ l.2.1 ∈ HNet.keepSet cs) :=
  ⟨HNet.liveSet_sub_keepSet w.child, HNet.keepSet_closed w.child w.level⟩

/-- **the level `prune()` keeps behaves as the level** (any schedules) -/
theorem C19_kept_level_behaves (s s' : List (St F) → Option (Nat × Nat)) (cs : List (HNet F))
    (links : List (PinRef × PinRef)) (exposed : List (String × PinRef)) (w : HNet.WFTree (.node cs links exposed))
    (c c' : CompD F) (hs : HNet.solveH s (.node cs links exposed) = .ok c)
    (hs' : HNet.solveH s' (HNet.keepLevel (.node cs links exposed)) = .ok c') :
    c'.pins = c.pins ∧ ∀ x ∈ c.pins, ∀ y ∈ c.pins, c'.sem x y = c.sem x y :=
  HNet.subLevel_preserves s s' cs links exposed w c c' hs (HNet.keepSet cs) (HNet.keepSet_closed w.child w.level)
    (fun e he => HNet.liveSet_sub_keepSet w.child _ (HNet.liveSet_exposed w.level e he)) hs'

namespace HNet

/-- non-vacuity: the level of the sanity check in `Core/HierPrune.lean` (two chained two-ports, a sub-solver that
exposes nothing and a component without pins) is well formed whatever the matrices -/
example (a c d : CompD F) (ha : a.pins = ["a", "b"]) (hc : c.pins = ["a", "b"]) (hd : d.pins = []) :
    WFTree (.node [.leaf a, .node [.leaf a] [] [], .leaf c, .leaf d] [((0, "b"), (2, "a"))]
      [("in", (0, "a")), ("out", (2, "b"))]) := by
  rw [← wfTreeB_iff]
  simp only [wfTreeB, wfTreeAllB, List.map, pinNamesB, ha, hc, hd]
  decide

end HNet
