import LekkerVerif.Proofs.Rename

/-! # C05 — parameter values reach each component by precedence and renaming rules

`renameFixed` models `Structure.update_params` (the rename + shield step applied when a structure
hands parameters down), `solverParams` models `Solver.update_params`, `addParamArgs` the argument
resolution of `add_param`.  The driver runs these very functions against the real methods. -/

/-- **renaming is simultaneous**: for every table with distinct old names and every dictionary, the
dictionary handed to the child has, under every inner name `x`, exactly what the simultaneous
substitution gives (chains and swaps included) -/
theorem C05_rename_simultaneous {V : Type} (m : Table) (d : Dict V) (hold : (m.map (·.2)).Nodup) (x : String) :
    (renameFixed m d).get? x = simul m d x := renameFixed_spec m d hold x

/-- **listing order is irrelevant** -/
theorem C05_listing_order {V : Type} (m m' : Table) (d : Dict V) (hp : m.Perm m') (hold : (m.map (·.2)).Nodup)
    (x : String) : (renameFixed m d).get? x = (renameFixed m' d).get? x := renameFixed_perm m m' d hp hold x

/-- **the old name is shielded**: a value given under a renamed parameter's old name reaches the child
only if that name is also the new name of another parameter -/
theorem C05_old_name_shielded {V : Type} (m : Table) (d : Dict V) (hold : (m.map (·.2)).Nodup)
    (new old : String) (h : (new, old) ∈ m) : (renameFixed m d).get? old = d.get? new := by
  rw [get?_renameFixed m hold, Flatten.midName_old m hold h]; rfl

/-- a name that is neither an old nor a new name passes through unchanged -/
theorem C05_untouched {V : Type} (m : Table) (d : Dict V) (hold : (m.map (·.2)).Nodup) (x : String)
    (h1 : ∀ no ∈ m, no.1 ≠ x) (h2 : ∀ no ∈ m, no.2 ≠ x) : (renameFixed m d).get? x = d.get? x := by
  rw [get?_renameFixed m hold, Flatten.midName_other m (fun h => ?_) (fun h => ?_)]
  · rfl
  · obtain ⟨no, hno, e⟩ := List.mem_map.1 h; exact h2 no hno e
  · obtain ⟨no, hno, e⟩ := List.mem_map.1 h; exact h1 no hno e

/-- **composition across two nesting levels**: renaming by the parent's table and then by the child's
is the composition of the two simultaneous substitutions -/
theorem C05_compose {V : Type} (m₁ m₂ : Table) (d : Dict V) (h₁ : (m₁.map (·.2)).Nodup) (h₂ : (m₂.map (·.2)).Nodup)
    (x : String) : (renameFixed m₂ (renameFixed m₁ d)).get? x =
      match m₂.find? (·.2 == x) with
      | some no => simul m₁ d no.1
      | none => if m₂.any (·.1 == x) then none else simul m₁ d x := by
  rw [renameFixed_spec m₂ _ h₂, simul]
  simp only [renameFixed_spec m₁ d h₁]
  rfl

/-- **precedence**: add_param-derived ≻ explicit call value ≻ solver default -/
theorem C05_precedence {V : Type} (defaults args derived : Dict V) (x : String) :
    (solverParams defaults args derived).get? x =
      ((Dict.lastOf derived.kv x).or (Dict.lastOf args.kv x)).or (Dict.lastOf defaults.kv x) :=
  solverParams_get? defaults args derived x

/-- **add_param arguments**: explicit value, else the current solver default, else the definition default -/
theorem C05_add_param_args {V : Type} (defn defaults args : Dict V) (k : String) (v0 : V)
    (h : defn.get? k = some v0) :
    (addParamArgs defn defaults args).get? k = some (((args.get? k).or (defaults.get? k)).getD v0) := by
  -- the entry of `defn` found under `k` is mapped to the entry found under `k`
  obtain ⟨e, he, rfl⟩ := Option.map_eq_some_iff.1 h
  have hk : e.1 = k := by simpa using List.find?_some he
  unfold addParamArgs Dict.get?
  simp only [List.find?_map, Function.comp_def, he]
  rw [← hk]
  rfl

/-- **precedence across a placement**: a placed child (own defaults `cd`) receives the parent's whole parameter
dictionary (parent defaults `pd` overlaid by the call values `args`) through a placement renamed by `m`.  For every
inner name `x` the child then uses the value the parent has for the name under which `x` is visible there - explicit
call value, else parent default - and only if the parent has none, its own default.  (Several levels:
`C05_precedence_any_depth`.) -/
theorem C05_precedence_hierarchy {V : Type} (m : Table) (hold : (m.map (·.2)).Nodup) (pd args cd : Dict V) (x : String) :
    (solverParams cd (renameFixed m (solverParams pd args ⟨[]⟩)) ⟨[]⟩).get? x =
      (simul m (solverParams pd args ⟨[]⟩) x).or (Dict.lastOf cd.kv x) :=
  level_get? m hold _ cd (solverParams_keys_nodup pd args ⟨[]⟩) x

/-- … and what the parent has for a name is: the call value, else its default -/
theorem C05_parent_value {V : Type} (pd args : Dict V) (y : String) :
    (solverParams pd args ⟨[]⟩).get? y = (Dict.lastOf args.kv y).or (Dict.lastOf pd.kv y) :=
  solverParams_get?_nil pd args y

/-! non-vacuity: a swap and a chain on concrete tables -/
example : ((renameFixed [("B", "A"), ("A", "B")] (⟨[("A", 1), ("B", 2)]⟩ : Dict Nat)).get? "A",
           (renameFixed [("B", "A"), ("A", "B")] (⟨[("A", 1), ("B", 2)]⟩ : Dict Nat)).get? "B") = (some 2, some 1) := by
  decide
example : ((renameFixed [("C", "B"), ("B", "A")] (⟨[("B", 1), ("C", 2)]⟩ : Dict Nat)).get? "A",
           (renameFixed [("C", "B"), ("B", "A")] (⟨[("B", 1), ("C", 2)]⟩ : Dict Nat)).get? "B",
           (renameFixed [("C", "B"), ("B", "A")] (⟨[("B", 1), ("C", 2)]⟩ : Dict Nat)).get? "C") = (some 1, some 2, none) := by
  decide

/-! ### any nesting depth

A path of placements from the top solver down to a component: level `i` places the next lower solver (or, at the end,
the component) through the rename table `mᵢ`, and that lower level has its own defaults `cdᵢ`.  `descend` is what the
code does (every level: rename + shield what comes from above, then overlay it on the level's own defaults);
`descendSpec` is the rule of the property, stated on look-ups only. -/

/-- the rule: at every level a name gets the value visible above under the name it is exposed by (nothing if it is
shielded), else that level's own default -/
def descendSpec {V : Type} (L : String → Option V) : List (Table × Dict V) → String → Option V
  | [] => L
  | (m, cd) :: rest => descendSpec (fun x => (simulF m L x).or (Dict.lastOf cd.kv x)) rest

/-- **precedence and renaming at any depth**: for every path of placements (any length, any tables with distinct old names,
any defaults) and every name, the value used at the bottom is the one the rule gives -/
theorem C05_precedence_any_depth {V : Type} (levels : List (Table × Dict V))
    (hold : ∀ l ∈ levels, (l.1.map (·.2)).Nodup) (top : Dict V) (htop : top.keys.Nodup) (x : String) :
    (descend top levels).get? x = descendSpec top.get? levels x := by
  induction levels generalizing top with
  | nil => rfl
  | cons l rest ih =>
    rw [descend, descendSpec, ih (fun l hl => hold l (List.mem_cons_of_mem _ hl)) _ (solverParams_keys_nodup _ _ _)]
    congr 1
    funext y
    exact level_get? l.1 (hold l List.mem_cons_self) top l.2 htop y

/-- top of the path: call values over the top solver's defaults (any call, any defaults) -/
theorem C05_any_depth_from_call {V : Type} (levels : List (Table × Dict V))
    (hold : ∀ l ∈ levels, (l.1.map (·.2)).Nodup) (pd args : Dict V) (x : String) :
    (descend (solverParams pd args ⟨[]⟩) levels).get? x =
      descendSpec (fun y => (Dict.lastOf args.kv y).or (Dict.lastOf pd.kv y)) levels x := by
  rw [C05_precedence_any_depth levels hold _ (solverParams_keys_nodup _ _ _)]
  congr 1
  funext y
  exact C05_parent_value pd args y

/-! non-vacuity: three levels, a single rename at the top, a chain below; the leaf's `B` is driven by the top-level `Q`
(as `P` in between), not by the top-level `B`, which the chain hands to `A`, nor by a default on the way -/
example : (descend (⟨[("Q", 5), ("B", 7)]⟩ : Dict Nat)
            [([("Q", "P")], ⟨[("P", 1)]⟩), ([("P", "B"), ("B", "A")], ⟨[("A", 2), ("B", 3)]⟩)]).get? "B" = some 5 := by decide
