import LekkerVerif.Proofs.WiringDetach
import LekkerVerif.Proofs.NamesSpec
import LekkerVerif.Proofs.WiringRaise

/-! # C16 — wiring calls are validated and atomic

`Wiring.step` is the model of the solver's wiring calls, `Wiring.raiseAll` of `Solver.maps_all_pins` (the driver runs both
step by step against the real `Solver`); `WInv` is the consistency of the redundant views.  `Names` is the model of the
pin-name table `update_pins` builds: pin names are never confused. -/

namespace Wiring

/-- every state reached by any history of wiring calls — add, connect, cut, remove, expose; accepted or
rejected — is consistent -/
theorem C16_reachable_inv (pinCounts : List Nat) (ops : List Op) :
    WInv (ops.foldl (fun w op => (step w op).1) (init pinCounts)) :=
  run_inv ops _ (init_inv pinCounts)

/-- **atomicity**: in a consistent state, any call that is rejected leaves the whole state — the solver's
three views, the exposure table and every structure's own tables — exactly as it was -/
theorem C16_atomic (w : W) (inv : WInv w) (op : Op) (h : (step w op).2 ≠ .ok) : (step w op).1 = w :=
  (step_cases w inv op).resolve_right fun h' => h h'.1

/-- **idempotence**: an identical connect call, in either orientation, is accepted and changes nothing -/
theorem C16_idempotent (w : W) (inv : WInv w) (p q : Pin) (hpq : p.1 ≠ q.1) (h : (p, q) ∈ w.conns)
    (hl : lookup w.conns p = some q) : connect w p q = (w, .ok) ∧ connect w q p = (w, .ok) :=
  connect_idempotent w inv p q hpq hl

/-- **a pin takes part in at most one connection**, after every history of wiring calls -/
theorem C16_one_connection (pinCounts : List Nat) (ops : List Op) :
    let w := ops.foldl (fun w op => (step w op).1) (init pinCounts)
    (w.conns.flatMap fun c => [c.1, c.2]).Nodup := by
  intro w
  have inv := C16_reachable_inv pinCounts ops
  rw [← inv.clistConns]
  exact inv.clistNodup

/-- in a consistent state `connect` never stops half-way: the outcome is `ok` or a `ValueError` raised before
anything was written, never an exception after the solver tables were updated -/
theorem C16_connect_never_partial (w : W) (inv : WInv w) (p q : Pin) : (connect w p q).2 ≠ .exception := by
  rcases connect_cases w inv p q with ⟨_, h | h⟩ | ⟨h, _⟩ <;> rw [h] <;> exact Out.noConfusion

/-- after a rejected call the circuit can still be completed: two free pins of different structures connect -/
theorem C16_completable_after_rejection (w : W) (inv : WInv w) (op : Op) (h : (step w op).2 ≠ .ok)
    (p q : Pin) (hne : p.1 ≠ q.1) (hp : p ∈ w.free) (hq : q ∈ w.free) : (connect (step w op).1 p q).2 = .ok := by
  rw [C16_atomic w inv op h]
  exact (connect_ok w inv p q hne hp hq).1

/-- a connection between two pins of one structure is rejected -/
theorem C16_no_self_connection (w : W) (p q : Pin) (h : p.1 = q.1) : connect w p q = (w, .valueError) := by
  unfold connect; simp [h]

/-- **a name is never rebound**: whatever a name pointed at before raise-all - mapped by hand or earlier - it points at
afterwards, whether the call succeeds or is rejected; the other wiring tables are untouched -/
theorem C16_raise_never_rebinds (nameOf : Pin → Nat) (w : W) (hk : KeysNodup w.mapping) :
    (∀ n p, (n, p) ∈ w.mapping → ∀ q, (n, q) ∈ (raiseAll nameOf w).1.mapping → q = p) ∧
    (∀ e ∈ w.mapping, e ∈ (raiseAll nameOf w).1.mapping) ∧
    KeysNodup (raiseAll nameOf w).1.mapping ∧
    (let w' := (raiseAll nameOf w).1; w'.heap = w.heap ∧ w'.structs = w.structs ∧ w'.conns = w.conns ∧ w'.clist = w.clist ∧ w'.free = w.free) :=
  ⟨raiseLoop_never_rebinds nameOf w.free w.mapping hk, raiseLoop_keeps nameOf w.free w.mapping,
    raiseLoop_keys_nodup nameOf w.free w.mapping hk, raiseAll_only_mapping nameOf w⟩

/-- **rejected exactly on a name clash**: raise-all raises iff some free pin is left unexposed while its own name is already
a key of the mapping (taken by another pin - by hand, earlier, or by a like-named pin raised just before) -/
theorem C16_raise_rejects_exactly_on_clash (nameOf : Pin → Nat) (w : W) :
    ((raiseAll nameOf w).2 = .exception ↔
      ∃ p ∈ w.free, ¬ (∃ e ∈ (raiseAll nameOf w).1.mapping, e.2 = p) ∧ ∃ e ∈ (raiseAll nameOf w).1.mapping, e.1 = nameOf p) ∧
    (raiseAll nameOf w).2 ≠ .valueError :=
  ⟨raiseLoop_exception_iff_clash nameOf w.free w.mapping, raiseLoop_not_valueError nameOf w.free w.mapping⟩

/-! non-vacuity and the rejected-call scenarios on a concrete solver (kernel evaluation) -/
def demo : W := ([Op.add 0, .add 1, .add 2, .connect (0, 1) (1, 0)].foldl (fun w op => (step w op).1) (init [2, 2, 2]))
example : (step demo (.connect (0, 1) (2, 0))).2 = .valueError ∧ (step demo (.connect (0, 1) (2, 0))).1 = demo := by decide
example : (step demo (.connect (2, 0) (1, 0))).2 = .valueError ∧ (step demo (.connect (2, 0) (1, 0))).1 = demo := by decide
example : (step demo (.connect (0, 0) (2, 7))).2 = .valueError ∧ (step demo (.connect (0, 0) (2, 7))).1 = demo := by decide
example : (step demo (.connect (0, 0) (9, 0))).2 = .valueError ∧ (step demo (.connect (0, 0) (9, 0))).1 = demo := by decide
example : step demo (.connect (1, 0) (0, 1)) = (demo, .ok) := by decide
example : (step demo (.add 1)).2 = .valueError := by decide

end Wiring

namespace Names

/-- **two distinct pins whose printable names coincide are rejected** by `update_pins` (model construction, and every
renaming, which ends in `update_pins`) -/
theorem C16_alike_rejected (pins : List PinN) (p q : PinN) (hp : p ∈ pins) (hq : q ∈ pins) (hne : p ≠ q)
    (hname : p.name = q.name) : buildTable pins = none := by
  rw [buildTable_spec, if_neg fun nd => hne (inj_of_nodup_map PinN.name pins nd p q hp hq hname)]

/-- such pins exist: `Pin('a','TE')` and `Pin('a_TE')` are different pins that print alike -/
theorem C16_alike_exists : (⟨"a", some "TE"⟩ : PinN) ≠ ⟨"a_TE", none⟩ ∧ (⟨"a", some "TE"⟩ : PinN).name = (⟨"a_TE", none⟩ : PinN).name := by
  decide

/-- a pin set is accepted exactly when no two of its pins print alike, and an accepted table resolves a name to a pin
exactly when that pin is present and prints so: never to another pin -/
theorem C16_resolution_exact (pins : List PinN) :
    (buildTable pins ≠ none ↔ (pins.map PinN.name).Nodup) ∧
    ∀ t, buildTable pins = some t → ∀ n p, resolve t n = some p ↔ (p ∈ pins ∧ p.name = n) :=
  ⟨buildTable_ne_none_iff pins, fun t h n p => resolve_iff pins t h n p⟩

/-- **a model whose pins were renamed is addressable by the new names**: after an accepted `pin_mapping` every renamed
pin is found under its new printable name (and under no other) -/
theorem C16_renamed_addressable (ρ : List (PinN × PinN)) (pins : List PinN) (t : List (String × PinN))
    (h : buildTable (renamePins ρ pins) = some t) (old new : PinN) (hold : old ∈ pins)
    (hρ : ρ.find? (·.1 == old) = some (old, new)) : resolve t new.name = some new := by
  apply (resolve_iff _ t h new.name new).2
  refine ⟨?_, rfl⟩
  unfold renamePins
  exact List.mem_map.2 ⟨old, hold, by simp [hρ]⟩

/-- the renaming is simultaneous: a swap exchanges the two pins (the history that lost a pin on the unrepaired code) -/
theorem C16_rename_swap :
    renamePins [(⟨"a", none⟩, ⟨"b", none⟩), (⟨"b", none⟩, ⟨"a", none⟩)] [⟨"a", none⟩, ⟨"b", none⟩, ⟨"c", none⟩]
      = [⟨"b", none⟩, ⟨"a", none⟩, ⟨"c", none⟩] := by decide

/-- `expand_mode` (as repaired) accepts a mode list exactly when the expanded pins print differently; in particular a
repeated mode name is rejected, and so is the clash of `a_b`×`c` with `a`×`b_c` -/
theorem C16_expand_exact (pins : List PinN) (modes : List String) :
    buildTable (expandPins pins modes) ≠ none ↔ ((expandPins pins modes).map PinN.name).Nodup :=
  buildTable_ne_none_iff (expandPins pins modes)

theorem C16_expand_examples :
    buildTable (expandPins [⟨"a", none⟩, ⟨"b", none⟩] ["TE", "TE"]) = none ∧
    buildTable (expandPins [⟨"a_b", none⟩, ⟨"a", none⟩] ["c", "b_c"]) = none ∧
    (buildTable (expandPins [⟨"a", none⟩, ⟨"b", none⟩] ["TE", "TM"])).isSome = true := by decide

end Names
