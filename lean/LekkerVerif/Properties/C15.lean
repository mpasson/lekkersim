import Mathlib.Analysis.SpecialFunctions.Log.Base
import Mathlib.Analysis.Complex.Norm
import Mathlib.Tactic.FinCases
import Mathlib.Tactic.Ring
import LekkerVerif.Generated.Readout

/-! # C15 — read-out helpers are faithful, linear views of the scattering matrix

The model (`excite`, `output`, `outputPower`) is size-generic.  The tie to the source is semantic: on every run the
translator *executes* `get_T / get_PH / get_A / get_output / get_data / get_full_output / get_full_data` of the current
`model.py` on a solved model with a symbolic matrix stack (`Generated/Readout.lean`: two sweep points, three pins at
permuted matrix indices, one pin left unexcited), and the `C15_src_*` theorems identify every traced result with the
model evaluated at that instance — so a rewrite of the helpers that keeps their meaning re-proves, and a change of
meaning (transposed entry, wrong sweep slice, power taken before the sum, stale excitation, …) does not. -/

namespace C15

open Matrix

variable {n : Type*} [Fintype n] [DecidableEq n]

/-- excitation vector: the given amplitudes, zero at unspecified pins -/
def excite (d : List (n × ℂ)) : n → ℂ := fun i => (d.lookup i).getD 0

/-- `get_output(power=False)`: `np.dot(S[0], u)` -/
def output (S : Matrix n n ℂ) (u : n → ℂ) : n → ℂ := S *ᵥ u
/-- `get_output(power=True)`: `np.abs(d[i]) ** 2` -/
noncomputable def outputPower (S : Matrix n n ℂ) (u : n → ℂ) : n → ℝ := fun i => ‖(S *ᵥ u) i‖ ^ 2

/-- **superposition**: the reported outputs are linear in the excitation -/
theorem C15_output_linear (S : Matrix n n ℂ) (u v : n → ℂ) (c : ℂ) :
    output S (u + c • v) = output S u + c • output S v := by
  unfold output
  rw [Matrix.mulVec_add, Matrix.mulVec_smul]

theorem C15_output_entry (S : Matrix n n ℂ) (u : n → ℂ) (i : n) : output S u i = ∑ j, S i j * u j := rfl

/-- **power mode = squared moduli of amplitude mode** -/
theorem C15_output_power (S : Matrix n n ℂ) (u : n → ℂ) (i : n) : outputPower S u i = ‖output S u i‖ ^ 2 := rfl

/-- **unspecified pins count as zero** -/
theorem C15_missing_zero (d : List (n × ℂ)) (i : n) (h : ∀ e ∈ d, e.1 ≠ i) : excite d i = 0 := by
  have : d.lookup i = none := List.lookup_eq_none_iff.2 fun e he => bne_iff_ne.2 (h e he).symm
  rw [excite, this]; rfl

/-- `T = |A|^2`, `dB = 20 log10 |A| = 10 log10 T` (for `A ≠ 0`; at `A = 0` numpy reports `-inf` for both forms) -/
theorem C15_T_dB (A : ℂ) (hA : A ≠ 0) :
    20 * Real.logb 10 ‖A‖ = 10 * Real.logb 10 (‖A‖ ^ 2) := by
  rw [Real.logb_pow]
  push_cast
  ring

/-- `T` is the squared modulus and never negative; phase is the argument: `A = |A| e^{i phase}` -/
theorem C15_T_phase (A : ℂ) : ‖A‖ ^ 2 = Complex.normSq A ∧ (‖A‖ : ℂ) * Complex.exp (Complex.arg A * Complex.I) = A := by
  refine ⟨?_, Complex.norm_mul_exp_arg_mul_I A⟩
  rw [Complex.normSq_eq_norm_sq]

/-- **sweep rows**: row `k` of a sweep table built point-wise from a stack `S k` is the scalar read-out of point `k` -/
theorem C15_sweep_rows {ι : Type*} (S : ι → Matrix n n ℂ) (u : n → ℂ) (k : ι) (i : n) :
    (fun k => output (S k) u i) k = output (S k) u i ∧ (fun k => ‖(S k) i i‖ ^ 2) k = ‖(S k) i i‖ ^ 2 := ⟨rfl, rfl⟩

section Source
open Generated.Readout

/-- pins `p, q, p_m1` of the traced instance → their matrix indices -/
def idx : Fin 3 → Fin 3 := ![2, 0, 1]
/-- the traced excitation `{p: up, p_m1: ur}` by matrix index; `q` (index 0) is not mentioned -/
def exc (up ur : ℂ) : Fin 3 → ℂ := excite [((2 : Fin 3), up), (1, ur)]

/-- a read-out under the traced excitation: the unexcited pin `q` (index 0) contributes nothing -/
theorem output_exc (M : Matrix (Fin 3) (Fin 3) ℂ) (up ur : ℂ) (i : Fin 3) :
    output M (exc up ur) i = M i 1 * ur + M i 2 * up := by
  rw [C15_output_entry, Fin.sum_univ_three]
  show M i 0 * 0 + M i 1 * ur + M i 2 * up = _
  rw [mul_zero, zero_add]

/-- closes `traced = model` after unfolding where the trace is not literally the model's value (`rfl`): equal up to ring
normalisation, possibly under a norm / arg / log -/
macro "readout_tie" : tactic =>
  `(tactic| first
    | done
    | rfl
    | ring1
    | (congr 1; ring1)
    | (congr 2; ring1)
    | (congr 3; ring1)
    | (ring_nf; done))

-- on a trace that is literally the model's value the fall-back branches below never run, which these linters report
set_option linter.unusedTactic false
set_option linter.unreachableTactic false
set_option linter.unusedSimpArgs false

variable (S : Fin 2 → Matrix (Fin 3) (Fin 3) ℂ) (up ur : ℂ)

/-- `get_T / get_PH / get_A("p", "q")`: squared modulus, argument and value of the entry (row of `p`, column of `q`) of
the first sweep point -/
theorem C15_src_scalar :
    get_T S = ‖S 0 (idx 0) (idx 1)‖ ^ 2 ∧ get_PH S = Complex.arg (S 0 (idx 0) (idx 1)) ∧ get_A S = S 0 (idx 0) (idx 1) := by
  refine ⟨?_, ?_, ?_⟩ <;> simp [get_T, get_PH, get_A, idx] <;> readout_tie

/-- `get_output`: amplitudes are `S[0] · u` with `u` the excitation (unspecified pin = 0), powers their squared moduli,
reported per pin through the pin's matrix index -/
theorem C15_src_output (pin : Fin 3) :
    get_output_amp S up ur pin = output (S 0) (exc up ur) (idx pin) ∧
    get_output_pow S up ur pin = outputPower (S 0) (exc up ur) (idx pin) := by
  rw [C15_output_power, output_exc]
  fin_cases pin <;>
    first
    | exact ⟨rfl, rfl⟩
    | (refine ⟨?_, ?_⟩ <;> simp [get_output_amp, get_output_pow, idx] <;> readout_tie)

/-- `get_data("p_m1", "p")`: row `k` holds `|A|²`, `20 log10 |A|`, `arg A`, `A` for the entry of sweep point `k` -/
theorem C15_src_data (k : Fin 2) :
    get_data_T S k = ‖S k (idx 2) (idx 0)‖ ^ 2 ∧ get_data_dB S k = 20 * Real.logb 10 ‖S k (idx 2) (idx 0)‖ ∧
    get_data_Phase S k = Complex.arg (S k (idx 2) (idx 0)) ∧ get_data_Amplitude S k = S k (idx 2) (idx 0) := by
  fin_cases k <;>
    simp [get_data_T, get_data_dB, get_data_Phase, get_data_Amplitude, idx] <;> readout_tie

/-- `get_full_output`: row `k` of the table is the read-out of sweep point `k` -/
theorem C15_src_full_output (pin : Fin 3) (k : Fin 2) :
    get_full_output_amp S up ur pin k = output (S k) (exc up ur) (idx pin) ∧
    get_full_output_pow S up ur pin k = outputPower (S k) (exc up ur) (idx pin) := by
  rw [C15_output_power, output_exc]
  fin_cases pin <;> fin_cases k <;>
    first
    | exact ⟨rfl, rfl⟩
    | (refine ⟨?_, ?_⟩ <;> simp [get_full_output_amp, get_full_output_pow, idx] <;> readout_tie)

/-- `get_full_data`: column `(a, b)`, row `k` is the entry (row of `a`, column of `b`) of sweep point `k` — no transposition -/
theorem C15_src_full_data (a b : Fin 3) (k : Fin 2) : get_full_data S a b k = S k (idx a) (idx b) := by
  fin_cases a <;> fin_cases b <;> fin_cases k <;>
    first
    | rfl
    | (simp [get_full_data, idx] <;> readout_tie)

/-- row 0 of the sweep table is the scalar read-out (which reads the first point) -/
theorem C15_src_rows (pin : Fin 3) :
    get_full_output_amp S up ur pin 0 = get_output_amp S up ur pin ∧ get_full_output_pow S up ur pin 0 = get_output_pow S up ur pin := by
  rw [(C15_src_full_output S up ur pin 0).1, (C15_src_full_output S up ur pin 0).2, (C15_src_output S up ur pin).1,
    (C15_src_output S up ur pin).2]
  exact ⟨rfl, rfl⟩

end Source

end C15
