import LekkerVerif.Properties.C05
import LekkerVerif.Proofs.Register
import LekkerVerif.Proofs.HierParams

/-! # C05 (continued) — defaults registered at placement come back to the component they belong to

`Solver.add_structure` registers the placed component's defaults in the parent under the names by which they are
visible there; `Structure.update_params` later hands the parent's dictionary down through the same table.  The two
translations are inverse to each other on the component's own parameters: with no explicit value, the component gets
its own default back. -/

/-- the placement does not merge two of the child's parameters into one name: a new name that is itself a parameter
of the child is renamed away by the same table (C05's "injective renaming") -/
def NoMerge {V : Type} (m : Table) (child : Dict V) : Prop :=
  ∀ no ∈ m, no.1 ∈ child.keys → no.1 ∈ m.map (·.2)

/-- **defaults round trip**: a component placed with an injective renaming `m` (distinct new names, distinct old names,
no merge with one of its own unrenamed parameters) registers its defaults in an (otherwise empty) parent; when the
parent then hands its dictionary down with no explicit value, every parameter of the component gets its own default back -/
theorem C05_defaults_roundtrip {V : Type} (m : Table) (hold : (m.map (·.2)).Nodup) (hnew : (m.map (·.1)).Nodup) (child : Dict V)
    (hck : child.keys.Nodup) (hm : NoMerge m child) (x : String) (v : V) (hx : child.get? x = some v) (hg : isGeo x = false) :
    (renameFixed m (registerDefaults m ⟨[]⟩ child)).get? x = some v := by
  -- no parameter of the child is shielded by `m`, so `update_params` reads `k` where `add_structure` wrote it: under `vis m k`
  have hmid : ∀ k ∈ child.keys, Flatten.midName m k = some (vis m k) := fun k hk =>
    midName_vis m k fun h => by obtain ⟨no, hno, rfl⟩ := List.mem_map.1 h; exact hm no hno hk
  have hxm := Dict.mem_of_get? child x v hx
  rw [get?_renameFixed m hold, hmid x (List.mem_map.2 ⟨_, hxm, rfl⟩), Option.bind_some, registerDefaults_eq,
    Dict.get?_overlay, show (⟨[]⟩ : Dict V).get? (vis m x) = none from rfl, Option.or_none]
  -- the registered names are distinct, since `vis m` is injective on the child's parameters
  have hkeys : (((child.kv.filter fun kv => !(isGeo kv.1)).map fun kv => (vis m kv.1, kv.2)).map (·.1)).Nodup := by
    rw [List.map_map]
    refine List.pairwise_map.2 ((List.pairwise_map.1 ((List.filter_sublist.map _).nodup hck)).imp_of_mem ?_)
    intro a b ha hb hne (h : vis m a.1 = vis m b.1)
    have hk : ∀ e ∈ child.kv.filter (fun kv => !(isGeo kv.1)), e.1 ∈ child.keys :=
      fun e he => List.mem_map.2 ⟨e, (List.mem_filter.1 he).1, rfl⟩
    exact hne (Flatten.midName_inj m hnew (hmid _ (hk a ha)) (h ▸ hmid _ (hk b hb)))
  rw [Dict.lastOf_eq_get?_of_nodup _ hkeys]
  exact Dict.get?_of_mem _ hkeys _ v (List.mem_map.2 ⟨_, List.mem_filter.2 ⟨hxm, by rw [hg]; rfl⟩, rfl⟩)

/-- non-vacuity: a swap of two parameters of a three-parameter component -/
example : (renameFixed [("A", "B"), ("B", "A")] (registerDefaults [("A", "B"), ("B", "A")] ⟨[]⟩ (⟨[("A", 1), ("B", 2), ("C", 3)]⟩ : Dict Nat))).kv
    = [("C", 3), ("B", 2), ("A", 1)] := by decide

/-- **the end-to-end model routes parameters by the any-depth rule**: in the composed model of `Solver.solve(**kw)` on a hierarchy
(`PNet.psolve`, the function the driver runs for `phsolve` and that is compared with the code on every parametric hierarchy), the
dictionary that reaches the object at the end of any path of placements, resolved there against that object's defaults, is
`descend` - the function `C05_precedence_any_depth` characterises - of the root's resolved dictionary along the rename tables
and registered defaults of the path -/
theorem C05_composed_model_routes_by_descend {F : Type} (path : List Nat) (t : PNet F) (kw e : Dict F)
    (h : PNet.dictAt kw t path = some e) :
    ∃ levels o, PNet.pathLevels t path = some (levels, o) ∧
      PNet.resolve o e = descend (PNet.resolve t kw) levels :=
  PNet.dictAt_descend path t kw e h
