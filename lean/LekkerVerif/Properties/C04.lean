import LekkerVerif.Model.Sweep
import LekkerVerif.Generated.Tables
import LekkerVerif.Core.Defined
import LekkerVerif.Core.ShapeIndep
import LekkerVerif.Model.HierParams

/-! # C04 — a parameter sweep equals the stack of the individual scalar solves -/

namespace Sweep

theorem normStep_none (lens : List Nat) : lens.foldl normStep none = none := by
  induction lens with
  | nil => rfl
  | cons l ls ih => exact ih

theorem foldl_normStep (lens : List Nat) (ns0 ns : Nat) :
    lens.foldl normStep (some ns0) = some ns ↔
      (∀ l ∈ lens, l = 1 ∨ l = ns) ∧ (ns0 = 1 ∨ ns0 = ns) ∧ (ns = ns0 ∨ ns ∈ lens) := by
  induction lens generalizing ns0 with
  | nil =>
    constructor
    · intro h; cases h; exact ⟨fun _ h => (nomatch h), Or.inr rfl, Or.inl rfl⟩
    · rintro ⟨_, _, rfl | c⟩
      · rfl
      · cases c
  | cons l ls ih =>
    rw [List.foldl_cons, normStep, List.forall_mem_cons]
    simp only [List.mem_cons]
    by_cases h1 : l = 1
    · -- a length 1 is skipped
      rw [if_pos h1, ih]
      constructor
      · rintro ⟨a, b, c⟩
        exact ⟨⟨Or.inl h1, a⟩, b, c.imp_right Or.inr⟩
      rintro ⟨⟨_, a⟩, b, c | c | c⟩
      · exact ⟨a, b, Or.inl c⟩
      · exact ⟨a, b, Or.inl (b.elim (fun b => (c.trans h1).trans b.symm) Eq.symm)⟩
      · exact ⟨a, b, Or.inr c⟩
    · rw [if_neg h1]
      by_cases h2 : ns0 = 1
      · -- the first length other than 1 is taken
        rw [if_pos h2, ih]
        constructor
        · rintro ⟨a, b, c⟩
          exact ⟨⟨b, a⟩, Or.inl h2, Or.inr c⟩
        · rintro ⟨⟨b, a⟩, _, _⟩
          exact ⟨a, b, Or.inl (b.resolve_left h1).symm⟩
      · rw [if_neg h2]
        by_cases h3 : ns0 = l
        · -- a later one must agree with it
          rw [if_pos h3, ih]
          constructor
          · rintro ⟨a, b, c⟩
            exact ⟨⟨Or.inr (h3 ▸ b.resolve_left h2), a⟩, b, c.imp_right Or.inr⟩
          · rintro ⟨⟨_, a⟩, b, _⟩
            exact ⟨a, b, Or.inl (b.resolve_left h2).symm⟩
        · rw [if_neg h3, normStep_none]
          refine ⟨fun h => (nomatch h), ?_⟩
          rintro ⟨⟨b, _⟩, c, _⟩
          exact absurd ((c.resolve_left h2).trans (b.resolve_left h1).symm) h3

/-- **accepted ⇒ consistent**: if the lengths are accepted with sweep length `ns`, every parameter has
length 1 or `ns`, and `ns` is 1 or one of the given lengths -/
theorem C04_normalise_sound (lens : List Nat) (ns : Nat) (h : normalise lens = some ns) :
    (∀ l ∈ lens, l = 1 ∨ l = ns) ∧ (ns = 1 ∨ ns ∈ lens) := by
  obtain ⟨a, _, c⟩ := (foldl_normStep lens 1 ns).1 h
  exact ⟨a, c⟩

/-- **inconsistent ⇒ rejected**: two parameters of different lengths, both ≠ 1, are always rejected -/
theorem C04_normalise_rejects (lens : List Nat) (l₁ l₂ : Nat) (h₁ : l₁ ∈ lens) (h₂ : l₂ ∈ lens)
    (n₁ : l₁ ≠ 1) (n₂ : l₂ ≠ 1) (ne : l₁ ≠ l₂) : normalise lens = none := by
  cases h : normalise lens with
  | none => rfl
  | some ns =>
    obtain ⟨a, _⟩ := C04_normalise_sound lens ns h
    have e₁ := (a l₁ h₁).resolve_left n₁
    have e₂ := (a l₂ h₂).resolve_left n₂
    exact absurd (e₁.trans e₂.symm) ne

/-- **consistent ⇒ accepted** with the common length -/
theorem C04_normalise_complete (lens : List Nat) (n : Nat) (hn : n ≠ 1) (h : ∀ l ∈ lens, l = 1 ∨ l = n)
    (hex : n ∈ lens) : normalise lens = some n :=
  (foldl_normStep lens 1 n).2 ⟨h, Or.inl rfl, Or.inr hex⟩

/-- broadcasting: a length-1 value is repeated, anything else is taken as is -/
theorem C04_bcast {α : Type} [Inhabited α] (ns : Nat) (v : List α) (k : Nat) (hk : k < ns) :
    (bcast ns v)[k]! = if v.length = 1 then v[0]! else v[k]! := by
  match v with
  | [] => rfl
  | [x] =>
    rw [show bcast ns [x] = List.replicate ns x from rfl, getElem!_pos _ k (by rw [List.length_replicate]; exact hk),
      List.getElem_replicate]
    rfl
  | x :: y :: r => rfl

theorem stepRun_out {P M : Type} (f : P → M) (copies : Bool) (kind : Kind) (hk : copies = true ∨ kind ≠ .buffer)
    (r : Run M) (p : P) : (stepRun copies kind f r p).out = r.out ++ [.val (f p)] := by
  unfold stepRun
  cases kind with
  | buffer => rw [hk.resolve_right (fun h => h rfl)]; rfl
  | fresh => rfl
  | fixed => rfl

/-- **sweep = map of scalar evaluations** whenever the collected matrix is copied or the block does not
write into a persistent buffer -/
theorem C04_model_sweep {P M : Type} (copies : Bool) (kind : Kind) (f : P → M) (pts : List P)
    (hk : copies = true ∨ kind ≠ .buffer) : modelSweep copies kind f pts = pts.map f := by
  have : ∀ r : Run M, (pts.foldl (stepRun copies kind f) r).out = r.out ++ pts.map fun p => .val (f p) := by
    induction pts with
    | nil => intro r; exact (List.append_nil _).symm
    | cons p ps ih => intro r; rw [List.foldl_cons, ih, stepRun_out f copies kind hk, List.append_assoc]; rfl
  unfold modelSweep finish
  -- every collected slot is a value, so dereferencing never looks at the buffer cell
  rw [this, List.nil_append, List.filterMap_map]
  exact congrFun List.filterMap_eq_map pts

/-- without the copy a buffer-backed block repeats its last matrix (the defect found on the pinned tree) -/
theorem C04_buffer_counterexample :
    modelSweep false .buffer (fun p : Nat => p * 10) [1, 2, 3] = [30, 30, 30] ∧
    modelSweep false .buffer (fun p : Nat => p * 10) [1, 2, 3] ≠ [1, 2, 3].map (fun p => p * 10) := by
  decide

/-- the third column of `Generated.blocks` (how `create_S` produces its matrix) as a `Kind` -/
def kindOf (s : String) : Kind := if s = "buffer" then .buffer else if s = "fixed" then .fixed else .fresh

/-- **the source today**: `Model.solve` copies what it collects, or no block class is buffer-backed; hence
every library block's sweep is the map of its scalar evaluations -/
theorem C04_source_blocks (P M : Type) (f : P → M) (pts : List P) :
    ∀ b ∈ Generated.blocks, modelSweep Generated.modelSolveCopies (kindOf b.2.2) f pts = pts.map f := by
  have h : Generated.modelSolveCopies = true ∨ ∀ b ∈ Generated.blocks, kindOf b.2.2 ≠ .buffer := by decide
  exact fun b hb => C04_model_sweep _ _ f pts (h.imp_right fun h => h b hb)

/-- the batched kernel is the kernel of each slice: a batch that returns has one result per pair, the `add?` of that pair -/
theorem C04_batch {K : Type} [Scalar K] (As Bs Cs : List (SMat K)) (hl : As.length = Bs.length)
    (h : SMat.addBatch As Bs = .ok Cs) :
    Cs.length = As.length ∧ ∀ i (hi : i < As.length) (hj : i < Bs.length) (hk : i < Cs.length),
      As[i].add? Bs[i] = .ok Cs[i] := SMat.addBatch_spec As Bs Cs hl h

end Sweep

/-! ### one control flow for the whole sweep

All points of a sweep share the pins, index maps and wiring and differ only in the matrix values (`St.SameShape`).  The
bookkeeping of `Structure.join` and of the elimination loop - which pair is merged next, the surviving pins, their indices,
the connection tables - is a function of the shape alone, so running the loop once on the batched matrices is running it on
every slice; the only value-dependent outcome of a merge is a singular inner system. -/

section ControlFlow
variable {F : Type} [Scalar F]

/-- C04 (scheduled loop): two runs of the elimination on lists of structures that differ at most
in their matrices (two slices of a sweep), driven by a schedule that reads shape data only, end in
structures with the same id, pins, index map, connection table, neighbour list and members. -/
theorem C04_control_flow_value_independent (sched : List (St F) → Option (Nat × Nat))
    (hs : ∀ l l', Solve.SameShapes l l' → sched l = sched l') (fuel : Nat)
    {live live' : List (St F)} (h : Solve.SameShapes live live') (fresh : Nat) {s s' : St F}
    (e : Solve.loopWith sched fuel live fresh = .ok s)
    (e' : Solve.loopWith sched fuel live' fresh = .ok s') : s.SameShape s' :=
  Solve.loopWith_sameShape sched hs fuel h fresh e e'

/-- C04 (heuristic loop): the pin-count heuristic picks its pairs from shape data only. -/
theorem C04_control_flow_value_independent_heuristic (fuel : Nat)
    {live live' : List (St F)} (h : Solve.SameShapes live live') (fresh : Nat) {s s' : St F}
    (e : Solve.loop fuel live fresh = .ok s) (e' : Solve.loop fuel live' fresh = .ok s') :
    s.SameShape s' :=
  Solve.loop_sameShape fuel h fresh e e'

/-- C04 (single merge): on a same-shape slice a merge that succeeded can only fail by a singular
star product. -/
theorem C04_join_failure_value_dependent_only_singular {a a' b b' : St F} (ha : a.SameShape a')
    (hb : b.SameShape b') (n : Nat) {c : St F} (h : St.join a b n = .ok c) :
    (∃ c', St.join a' b' n = .ok c' ∧ c.SameShape c') ∨ St.join a' b' n = .error .singular :=
  St.join_shape ha hb n h

end ControlFlow

section HierSweep
variable {F : Type} [Scalar F]

/-- C04 (end-to-end model of a sweep over a hierarchy): when the lengths are consistent (`normalise` returns `ns`) the model of
`top.solve(**kw)` with array-valued parameters has `ns` points and point `i` *is* the scalar solve of the hierarchy at the `i`-th
values (length-1 values broadcast); inconsistent lengths are rejected.  This is the reference the batched computation of the code
is compared with on every run (`phsweep`). -/
theorem C04_model_hier_sweep (sched : List (St F) → Option (Nat × Nat)) (kw : List (String × List F)) (t : PNet F) :
    (Sweep.normalise (kw.map (·.2.length)) = none → PNet.psweep sched kw t = none) ∧
    (∀ ns, Sweep.normalise (kw.map (·.2.length)) = some ns →
      ∃ rs, PNet.psweep sched kw t = some rs ∧ rs.length = ns ∧
        ∀ i (hi : i < rs.length), rs[i] =
          PNet.psolve sched ⟨kw.map fun kv => (kv.1, ((Sweep.bcast ns kv.2)[i]?).getD default)⟩ t) := by
  unfold PNet.psweep
  constructor
  · intro h; rw [h]
  · intro ns h
    rw [h]
    refine ⟨_, rfl, by rw [List.length_map, List.length_range], fun i hi => ?_⟩
    rw [List.getElem_map, List.getElem_range]

end HierSweep
