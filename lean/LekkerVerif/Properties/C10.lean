import LekkerVerif.Properties.C18
import LekkerVerif.Properties.C03
import LekkerVerif.Core.MonitorSpec

/-! # C10 — monitors report the true internal waves and do not disturb the circuit

`Solver.solve` merges the monitored structures separately (`monitor`), the others into `main`, joins
the two, and keeps a closure that evaluates `S_matrix.int_complete` on the two partitioned matrices.
Kernel level: the amplitudes `int_complete` returns are *the* interface waves of every solution of the
pair (main, monitor).  `C10_network_waves` goes from the pair to the whole network by the substitution
theorem of C02 applied to both sides.  The executable path the driver runs for `get_monitor` is tied to this by
`C10_exec_waves` (`Monitor.intComplete?`), `C10_reported_links` (`Monitor.intermediate`) and `C10_table_columns`
(`Monitor.tabulate`: names and order of the columns).  End to end it is also exercised by the oracle run (full wave
vectors of an independent global solve). -/

open Matrix

section kernel
variable {F : Type*} [Field F]
variable {n k m : Type*} [Fintype n] [Fintype k] [Fintype m] [DecidableEq n] [DecidableEq k] [DecidableEq m]

/-- **the reported waves are the true ones**: for every solution of the pair equations with excitation `(u, d)`
the wave entering the monitored side (`f`) and the wave leaving it (`g`) are what `int_complete` reports -/
theorem C10_waves (A : SM F n k) (B : SM F k m) (h : IsUnit (1 - A.S12 * B.S21))
    (u : n → F) (d : m → F) (rA : n → F) (rB : m → F) (f g : k → F) (he : PairEq A B u d rA rB f g) :
    (Generated.intComplete A B u d).1 = f ∧ (Generated.intComplete A B u d).2 = g := by
  rw [C18_interface A B h u d rA rB f g he]
  exact ⟨rfl, rfl⟩

/-- … and they satisfy both sides' equations at the monitored links (a solution exists) -/
theorem C10_waves_satisfy (A : SM F n k) (B : SM F k m) (h : IsUnit (1 - A.S12 * B.S21)) (u : n → F) (d : m → F) :
    (Generated.intComplete A B u d).1 = A.S11 *ᵥ u + A.S12 *ᵥ (Generated.intComplete A B u d).2 ∧
    (Generated.intComplete A B u d).2 = B.S21 *ᵥ (Generated.intComplete A B u d).1 + B.S22 *ᵥ d :=
  C18_interface_satisfies A B h u d

/-- the interface waves are linear in the excitation (superposition of monitor read-outs) -/
theorem C10_linear (A : SM F n k) (B : SM F k m) (u u' : n → F) (d d' : m → F) :
    (Generated.intComplete A B (u + u') (d + d')).1 = (Generated.intComplete A B u d).1 + (Generated.intComplete A B u' d').1 := by
  -- project first, so that only the first component is distributed
  simp only [Generated.intComplete_eq, SM.waves]
  simp only [Matrix.mulVec_add]
  abel

end kernel

/-- **monitors do not disturb**: merging the monitored structures separately and joining them last is just
another merge schedule, so the external coefficients equal those of the default schedule -/
theorem C10_no_disturb {K : Type} [Field K] [DecidableEq K] (net : NetD K) (wf : net.WF) (ex : net.ExposureOK)
    (monitorSched : List (St K) → Option (Nat × Nat)) (t₁ t₂ : St K)
    (h₁ : net.solveWith Solve.pySched = .ok t₁) (h₂ : net.solveWith monitorSched = .ok t₂) :
    ∀ x ∈ net.exposed, ∀ y ∈ net.exposed, t₁.sem x.2 y.2 = t₂.sem x.2 y.2 :=
  C03_schedule_independent net wf ex _ _ t₁ t₂ h₁ h₂

/-- **network level**: split any circuit into the monitored part `monNet` and the rest `mainNet` (both arbitrary
networks, with solution operators `TB`, `TA` — what the two partial merges return), joined by `links` (first end in
the rest, second end in the monitored part); `keptA`, `keptB` are the exposed pins of the two sides.  Then for *every*
solution `(a, b)` of the whole network — all components, all links — the pair `int_complete` computes from the two
partial matrices and the excitation is exactly (wave leaving the rest = entering the monitored side, wave leaving
the monitored side) on those links. -/
theorem C10_network_waves {P : Type} [DecidableEq P] {K : Type} [Field K]
    (mainNet monNet : ANet P K) (links : List (P × P)) (keptA keptB : List P) (TA TB : P → P → K)
    (hA : mainNet.SolvedBy TA) (hB : monNet.SolvedBy TB)
    (plB : ANet.Placed mainNet.parts monNet (links ++ mainNet.links) (keptA ++ keptB))
    (plA : ANet.Placed [(monNet.exposed, TB)] mainNet links (keptA ++ keptB))
    (pA : mainNet.exposed.Perm (keptA ++ links.map Prod.fst)) (pB : monNet.exposed.Perm (links.map Prod.snd ++ keptB))
    (a b : P → K)
    (hs : (ANet.inlined mainNet.parts monNet (links ++ mainNet.links) (keptA ++ keptB)).Sol a b) :
    let kA : Fin keptA.length → P := fun i => keptA[i]
    let kB : Fin keptB.length → P := fun i => keptB[i]
    let cA : Fin links.length → P := fun i => links[i].1
    let cB : Fin links.length → P := fun i => links[i].2
    let A : SM K (Fin keptA.length) (Fin links.length) :=
      { S21 := blk TA kA kA, S22 := blk TA kA cA, S11 := blk TA cA kA, S12 := blk TA cA cA }
    let B : SM K (Fin links.length) (Fin keptB.length) :=
      { S21 := blk TB cB cB, S22 := blk TB cB kB, S11 := blk TB kB cB, S12 := blk TB kB kB }
    IsUnit (1 - A.S12 * B.S21) →
    Generated.intComplete A B (a ∘ kA) (a ∘ kB) = (a ∘ cB, b ∘ cB) := by
  have hp := ANet.pair_sol_of_whole mainNet monNet links (keptA ++ keptB) TA TB hA hB plB plA a b hs
  have eA : Eqn mainNet.exposed TA a b := hp.comp (mainNet.exposed, TA) (by simp [ANet.parent])
  have eB : Eqn monNet.exposed TB a b := hp.comp (monNet.exposed, TB) (by simp [ANet.parent])
  have pA' : mainNet.exposed.Perm (List.ofFn keptA.get ++ List.ofFn (Prod.fst ∘ links.get)) := by
    rwa [List.ofFn_get, List.ofFn_comp_get]
  have pB' : monNet.exposed.Perm (List.ofFn (Prod.snd ∘ links.get) ++ List.ofFn keptB.get) := by
    rwa [List.ofFn_get, List.ofFn_comp_get]
  -- on a link, what leaves the rest enters the monitored side and vice versa
  have hl : a ∘ (Prod.fst ∘ links.get) = b ∘ (Prod.snd ∘ links.get) ∧ a ∘ (Prod.snd ∘ links.get) = b ∘ (Prod.fst ∘ links.get) :=
    ⟨funext fun i => (hp.link _ (List.get_mem _ i)).1, funext fun i => (hp.link _ (List.get_mem _ i)).2⟩
  intro kA kB cA cB A B hu
  exact (C18_interface A B hu _ _ _ _ _ _ (pairEq_of_eqn pA' pB' a b eA eB hl)).trans (Prod.ext hl.2.symm hl.1)

/-! ### the executable monitor path (`Core/Monitor.lean`, run by the native driver and compared with `get_monitor`) -/

/-- **the executable `int_complete` is the regenerated kernel**: whenever the transcription of `S_matrix.int_complete` that the
driver runs returns, entry `i` of the two lists it returns is entry `i` of what `Generated.intComplete` (traced from the
current `scattering.py`) gives on the same operands seen as Mathlib matrices - so `C10_waves` / `C10_network_waves` apply to
the numbers the correspondence compares with `get_monitor` -/
theorem C10_exec_waves {K : Type} [Field K] [DecidableEq K] (A B : SMat K) (hA : A.WF) (hB : B.WF) (u d uo dd : List K)
    (hu : u.length = A.N) (hd : d.length = B.M) (h : Monitor.intComplete? A B u d = .ok (uo, dd)) :
    ((fun i : Fin A.M => uo.getD i.1 0), (fun i : Fin A.M => dd.getD i.1 0))
      = Generated.intComplete (A.toSM A.N A.M) (B.toSM A.M B.M) (fun i : Fin A.N => u.getD i.1 0)
          (fun i : Fin B.M => d.getD i.1 0) := by
  rw [Generated.intComplete_eq]
  exact (Monitor.intComplete?_spec A B hA hB u d uo dd hu hd h).2.2.2.2

/-- **which links are reported**: the read-out lists exactly the connections of `main`'s table whose far end lies in a member
of the monitored composite - one per such entry, in the table's order, each symmetric (the monitored side's table points
back) - i.e. the links that join a monitored to a non-monitored component, and no other -/
theorem C10_reported_links {K : Type} [Scalar K] (main mon : St K) (exc : PinRef → K) (r : Monitor.Readout K)
    (h : Monitor.intermediate main mon exc = .ok r) :
    r.links.map (·.1) = main.getOutTo mon ∧
    (∀ p, p ∈ main.getOutTo mon ↔ ∃ q, (p, q) ∈ main.conn ∧ mon.group.contains q.1 = true) ∧
    ∀ l ∈ r.links, lookupL main.conn l.1 = some l.2 ∧ lookupL mon.conn l.2 = some l.1 := by
  obtain ⟨hfst, hall⟩ := St.linkPins_spec (Monitor.intermediate_links main mon exc r h)
  exact ⟨hfst, fun p => St.mem_getOutTo.trans (by simp only [List.contains_iff_mem]), hall⟩

/-- **the table**: `get_monitor` lists, per reported link and in the order of the links, the column `<monitor>_<pin>_i` followed by
`<monitor>_<pin>_o` (names of the monitored side's structure and pin) - nothing else - and the power-mode table is the
amplitude-mode table with every value replaced by its view (the squared modulus) -/
theorem C10_table_columns {K G : Type} [Scalar K] (monName : Nat → String) (view : K → G) (r : Monitor.Readout K)
    (hi : r.inward.length = r.links.length) (ho : r.outward.length = r.links.length) :
    (Monitor.tabulate monName view r).map (·.1) =
      r.links.flatMap (fun l => [monName l.2.1 ++ "_" ++ l.2.2 ++ "_i", monName l.2.1 ++ "_" ++ l.2.2 ++ "_o"]) ∧
    Monitor.tabulate monName view r = (Monitor.tabulate monName id r).map (fun kv => (kv.1, view kv.2)) := by
  unfold Monitor.tabulate
  constructor
  · -- the links are the first components of the zipped list, which is not cut short
    have hz : (r.links.zip (r.inward.zip r.outward)).map Prod.fst = r.links :=
      List.map_fst_zip (by rw [List.length_zip, hi, ho, Nat.min_self])
    conv_rhs => rw [← hz, List.flatMap_map]
    rw [List.map_flatMap]
    rfl
  · simp [List.map_flatMap, id]
