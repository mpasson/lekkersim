import LekkerVerif.Properties.C08
import LekkerVerif.Core.HierEnergy
import LekkerVerif.Core.WFCheckSpec

/-! # C08 (continued) — passivity, reciprocity and losslessness through hierarchies of any depth

For the *executable* recursion `HNet.solveH` (what the driver runs for `hsolve`, compared with the code's hierarchical solve on every
run): properties of the leaf components are inherited by the result, whatever the nesting depth, the branching and the merge
schedules at the levels.  Passivity survives partial exposure (pins that are not exposed receive no wave; dropping their outgoing
power only helps); losslessness needs every level to expose all its free pins (`HNet.FullyExposed`), otherwise power leaves through
the hidden pins.  One level of the induction `HNet.solveH_induct`: the children's results have the property, hence every initial
structure of the level (`CompD.mkSt_*`), hence the structure the elimination ends with (C08 for networks), hence the component
handed up (`NetD.extract_*`). -/

open NetD Solve

variable {F : Type} [Field F] [DecidableEq F]

/-- what `mkSt` carries over from a component to its structure holds of all initial structures once it holds of all components -/
theorem NetD.forall_initial_of_comps {net : NetD F} {P : CompD F → Prop} {Q : St F → Prop}
    (hPQ : ∀ k c, P c → Q (net.mkSt k c)) (hP : ∀ c ∈ net.comps, P c) : ∀ s ∈ net.initial, Q s :=
  forall_initial.2 fun k c hk => hPQ k c (hP c (List.mem_of_getElem? hk))

/-- a hierarchy of reciprocal components is reciprocal -/
theorem C08_hier_reciprocal (sched : List (St F) → Option (Nat × Nat)) (h : HNet F) (w : HNet.WFTree h)
    (hl : ∀ c ∈ HNet.leafComps h, c.Recip) (c : CompD F) (hs : HNet.solveH sched h = .ok c) : c.Recip := by
  refine HNet.solveH_induct sched CompD.Recip HNet.WFTree (fun _ _ _ g => g.child) ?_ h w hl c hs
  intro cs links exposed comps total g hF hP ht
  have lf := g.levelFacts sched comps total hF ht
  exact extract_recip _ total lf (C08_reciprocal _ lf.wf sched total ht
    (forall_initial_of_comps (CompD.mkSt_recip _) hP))

/-- a hierarchy of passive components never shows gain, with any subset of the free pins exposed at any level -/
theorem C08_hier_passive {R : Type*} [AddCommGroup R] [PartialOrder R] [IsOrderedAddMonoid R] (w : F → R)
    (w0 : ∀ z, 0 ≤ w z) (wz : w 0 = 0) (sched : List (St F) → Option (Nat × Nat)) (h : HNet F) (wt : HNet.WFTree h)
    (hl : ∀ c ∈ HNet.leafComps h, c.PassiveW w) (c : CompD F) (hs : HNet.solveH sched h = .ok c) : c.PassiveW w := by
  refine HNet.solveH_induct sched (CompD.PassiveW w) HNet.WFTree (fun _ _ _ g => g.child) ?_ h wt hl c hs
  intro cs links exposed comps total g hF hP ht
  have lf := g.levelFacts sched comps total hF ht
  exact extract_passive w w0 wz _ total lf (C08_passive w _ lf.wf sched total ht
    (forall_initial_of_comps (CompD.mkSt_passive w _) hP))

/-- a hierarchy of lossless components in which every level exposes all its free pins is lossless (for every pairing, in
particular `star x * y`: unitary) -/
theorem C08_hier_lossless {R : Type*} [AddCommGroup R] (φ : F → F → R) (sched : List (St F) → Option (Nat × Nat))
    (h : HNet F) (wt : HNet.WFTree h) (fe : HNet.FullyExposed h)
    (hl : ∀ c ∈ HNet.leafComps h, c.LosslessW φ) (c : CompD F) (hs : HNet.solveH sched h = .ok c) : c.LosslessW φ := by
  refine HNet.solveH_induct sched (CompD.LosslessW φ) (fun h => HNet.WFTree h ∧ HNet.FullyExposed h) ?_ ?_ h ⟨wt, fe⟩ hl c hs
  · intro cs links exposed g h hh
    refine ⟨g.1.child h hh, ?_⟩
    cases g.2 with
    | node _ _ _ hch _ => exact hch h hh
  · intro cs links exposed comps total g hF hP ht
    have lf := g.1.levelFacts sched comps total hF ht
    refine extract_lossless φ _ total lf
      (total_pins_exposed _ lf.wf sched total ht fun k c hk x hx hfree => ?_)
      (C08_lossless φ _ lf.wf sched total ht (forall_initial_of_comps (CompD.mkSt_lossless φ _) hP))
    cases g.2 with
    | node _ _ _ _ hfull =>
      rw [← HNet.solveAll_pins sched cs comps hF] at hfull
      exact hfull k c.pins (by rw [List.getElem?_map, show comps[k]? = some c from hk]; rfl) x hx
        ((not_lnk_iff _ (k, x)).1 hfree)

/-! ### non-vacuity: a two-level hierarchy of half-attenuators over ℚ -/

section NonVacuity
open HNet

/-- a reciprocal, passive two-port: `[[0, 1/2], [1/2, 0]]` -/
def attNV : CompD ℚ := { pins := ["a", "b"], idx := [("a", 0), ("b", 1)], S := ⟨2, 2, #[0, 1/2, 1/2, 0]⟩ }

theorem attNV_recip : attNV.Recip := by
  obtain ⟨h1, h2, h3, h4⟩ := CompD.sem_crossed (1 / 2 : ℚ) attNV rfl
  intro x hx y hy
  simp only [attNV, List.mem_cons, List.not_mem_nil, or_false] at hx hy
  rcases hx with rfl | rfl <;> rcases hy with rfl | rfl <;> simp [h1, h2, h3, h4]

theorem attNV_passive : attNV.PassiveW (fun z : ℚ => z ^ 2) := by
  obtain ⟨h1, h2, h3, h4⟩ := CompD.sem_crossed (1 / 2 : ℚ) attNV rfl
  intro a
  have p : attNV.pins = ["a", "b"] := rfl
  simp only [CompD.out, p, List.map_cons, List.map_nil, List.sum_cons, List.sum_nil, h1, h2, h3, h4, zero_mul, zero_add,
    add_zero, mul_pow]
  -- each output carries a quarter of the power that enters at the other pin
  exact (add_le_add (mul_le_of_le_one_left (sq_nonneg _) (by norm_num))
    (mul_le_of_le_one_left (sq_nonneg _) (by norm_num))).trans (add_comm _ _).le

/-- two attenuators chained and wrapped as a sub-circuit, chained with a third -/
def treeNV : HNet ℚ :=
  .node [.node [.leaf attNV, .leaf attNV] [((0, "b"), (1, "a"))] [("x", (0, "a")), ("y", (1, "b"))], .leaf attNV]
    [((0, "y"), (1, "a"))] [("in", (0, "x")), ("out", (1, "b"))]

theorem treeNV_wf : WFTree treeNV := wfTree_twoLevel _ _ _ rfl rfl rfl

theorem treeNV_leaves : ∀ c ∈ leafComps treeNV, c = attNV := by
  simp [leafComps, treeNV, leaves, leavesAll]

theorem treeNV_recip_passive (sched) (c : CompD ℚ) (hs : solveH sched treeNV = .ok c) :
    c.Recip ∧ c.PassiveW (fun z : ℚ => z ^ 2) :=
  ⟨C08_hier_reciprocal sched treeNV treeNV_wf (fun c hc => treeNV_leaves c hc ▸ attNV_recip) c hs,
   C08_hier_passive (fun z : ℚ => z ^ 2) (fun z => sq_nonneg z) (by norm_num) sched treeNV treeNV_wf
     (fun c hc => treeNV_leaves c hc ▸ attNV_passive) c hs⟩

example (sched) (c : CompD ℚ) (hs : solveH sched treeNV = .ok c) : c.Recip ∧ c.PassiveW (fun z : ℚ => z ^ 2) :=
  treeNV_recip_passive sched c hs

/-- and the recursive solve of that tree does return (pin-count schedule; the result is `[[0, 1/8], [1/8, 0]]`) -/
theorem treeNV_solves : ∃ c, solveH Solve.pySched treeNV = .ok c := Except.exists_of_isOk (by decide +kernel)

example : ∃ c, solveH Solve.pySched treeNV = .ok c ∧ c.Recip ∧ c.PassiveW (fun z : ℚ => z ^ 2) := by
  obtain ⟨c, hs⟩ := treeNV_solves
  exact ⟨c, hs, treeNV_recip_passive _ c hs⟩

/-- a lossless two-port (a through connection): `[[0, 1], [1, 0]]` -/
def thruNV : CompD ℚ := { pins := ["a", "b"], idx := [("a", 0), ("b", 1)], S := ⟨2, 2, #[0, 1, 1, 0]⟩ }

theorem thruNV_lossless : thruNV.LosslessW (fun x y : ℚ => x * y) := by
  obtain ⟨h1, h2, h3, h4⟩ := CompD.sem_crossed (1 : ℚ) thruNV rfl
  intro a a'
  have p : thruNV.pins = ["a", "b"] := rfl
  simp only [CompD.out, p, List.map_cons, List.map_nil, List.sum_cons, List.sum_nil, h1, h2, h3, h4]
  ring

/-- the same two-level shape with through connections -/
def treeLNV : HNet ℚ :=
  .node [.node [.leaf thruNV, .leaf thruNV] [((0, "b"), (1, "a"))] [("x", (0, "a")), ("y", (1, "b"))], .leaf thruNV]
    [((0, "y"), (1, "a"))] [("in", (0, "x")), ("out", (1, "b"))]

theorem treeLNV_wf : WFTree treeLNV := wfTree_twoLevel _ _ _ rfl rfl rfl

theorem fullyExposed_two (c1 c2 : HNet ℚ) (f1 : FullyExposed c1) (f2 : FullyExposed c2) (x1 y1 x2 y2 n1 n2 : String)
    (h1 : c1.pinNames = [x1, y1]) (h2 : c2.pinNames = [x2, y2]) :
    FullyExposed (.node [c1, c2] [((0, y1), (1, x2))] [(n1, (0, x1)), (n2, (1, y2))]) := by
  refine FullyExposed.node _ _ _ (List.forall_mem_cons.2 ⟨f1, List.forall_mem_cons.2 ⟨f2, nofun⟩⟩) ?_
  intro k ps hk x hx hfree
  have hf := hfree _ (List.mem_singleton.2 rfl)
  rw [List.map_cons, List.map_cons, h1, h2] at hk
  match k, hk with
  | 0, hk =>
    cases hk
    rcases List.mem_pair.1 hx with rfl | rfl
    · exact List.mem_cons_self
    · exact absurd rfl hf.1
  | 1, hk =>
    cases hk
    rcases List.mem_pair.1 hx with rfl | rfl
    · exact absurd rfl hf.2
    · exact List.mem_cons_of_mem _ List.mem_cons_self
  | k + 2, hk => cases hk

theorem treeLNV_full : FullyExposed treeLNV :=
  fullyExposed_two _ _
    (fullyExposed_two _ _ (FullyExposed.leaf _) (FullyExposed.leaf _) "a" "b" "a" "b" "x" "y" rfl rfl)
    (FullyExposed.leaf _) "x" "y" "a" "b" "in" "out" rfl rfl

theorem treeLNV_leaves : ∀ c ∈ leafComps treeLNV, c = thruNV := by
  simp [leafComps, treeLNV, leaves, leavesAll]

theorem treeLNV_solves : ∃ c, solveH Solve.pySched treeLNV = .ok c := Except.exists_of_isOk (by decide +kernel)

example : ∃ c, solveH Solve.pySched treeLNV = .ok c ∧ c.LosslessW (fun x y : ℚ => x * y) := by
  obtain ⟨c, hs⟩ := treeLNV_solves
  exact ⟨c, hs, C08_hier_lossless _ _ treeLNV treeLNV_wf treeLNV_full
    (fun c hc => treeLNV_leaves c hc ▸ thruNV_lossless) c hs⟩

end NonVacuity
