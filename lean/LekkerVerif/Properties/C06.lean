import LekkerVerif.Model.Purity
import LekkerVerif.Generated.Tables
import LekkerVerif.Proofs.Dict

/-! # C06 — solve() is a pure query and its results are immutable snapshots -/

namespace Purity

/-- what the translator finds in the source today -/
def srcFlags : Flags := ⟨Generated.solveResetsParams, Generated.splitResetsPartition, Generated.monitorClosureBound⟩

/-- the source clears its working state before use and binds the monitor closure -/
theorem C06_source_flags : srcFlags = ⟨true, true, true⟩ ∧ Generated.solveResetsStructures = true := by decide

/-- **the result does not depend on what earlier calls left behind** — for *every* scratch state, not only
reachable ones: same circuit, same arguments ⇒ same result -/
theorem C06_scratch_independent {V R : Type} (f : Dict V → List Nat → R) (h₁ h₂ : Scratch V)
    (defaults args : Dict V) (thisMerge : List Nat) :
    solveM srcFlags f h₁ defaults args thisMerge = solveM srcFlags f h₂ defaults args thisMerge := by
  rw [C06_source_flags.1]; rfl

/-- **repeatable / history-free**: after any sequence of earlier calls (each leaving an arbitrary scratch state) the
call gives what it gives on a fresh solver -/
theorem C06_repeatable {V R : Type} (f : Dict V → List Nat → R) (history : List (Scratch V)) (h : Scratch V)
    (defaults args : Dict V) (thisMerge : List Nat) :
    solveM srcFlags f (history.foldl (fun _ s => s) h) defaults args thisMerge
      = solveM srcFlags f ⟨⟨[]⟩, []⟩ defaults args thisMerge :=
  C06_scratch_independent f _ _ defaults args thisMerge

/-- the resolved parameters of a call are exactly defaults overlaid with the arguments (nothing else) -/
theorem C06_resolved_params {V : Type} (h : Scratch V) (defaults args : Dict V) (x : String) :
    (resolve srcFlags h defaults args).get? x = (Dict.lastOf args.kv x).or (Dict.lastOf defaults.kv x) := by
  rw [C06_source_flags.1]
  exact solverParams_get?_nil defaults args x

/-- **snapshots**: a monitor read-out of a returned result does not change with the later state of the solver -/
theorem C06_snapshot {R : Type} (v now₁ now₂ : R) : readMon (makeMon srcFlags v) now₁ = readMon (makeMon srcFlags v) now₂ := by
  rw [C06_source_flags.1]; rfl

/-! the pinned behaviour (flags off) violates each of the three, on concrete witnesses -/
theorem C06_poisoned_counterexample :
    (resolve (V := Nat) ⟨false, true, true⟩ ⟨⟨[("pb", 7)]⟩, []⟩ ⟨[("pa", 1)]⟩ ⟨[]⟩).get? "pb" = some 7 ∧
    (resolve (V := Nat) ⟨true, true, true⟩ ⟨⟨[("pb", 7)]⟩, []⟩ ⟨[("pa", 1)]⟩ ⟨[]⟩).get? "pb" = none := by decide
theorem C06_stale_partition_counterexample :
    partitionUsed (V := Nat) ⟨true, false, true⟩ ⟨⟨[]⟩, [4]⟩ [1, 2] = [4, 1, 2] ∧
    partitionUsed (V := Nat) ⟨true, true, true⟩ ⟨⟨[]⟩, [4]⟩ [1, 2] = [1, 2] := by decide
theorem C06_live_closure_counterexample :
    readMon (makeMon ⟨true, true, false⟩ (1 : Nat)) 2 = 2 ∧ readMon (makeMon ⟨true, true, true⟩ (1 : Nat)) 2 = 1 := by decide

end Purity
