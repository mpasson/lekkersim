import LekkerVerif.Properties.C01

/-! # C03 — independence of declaration order and elimination order -/

open NetD

variable {F : Type} [Field F] [DecidableEq F]

/-- any two merge schedules that succeed give the same coefficient between every pair of exposed pins
(schedules may merge unconnected pairs, pick either orientation, …) -/
theorem C03_schedule_independent (net : NetD F) (wf : net.WF) (ex : net.ExposureOK) (sched₁ sched₂) (t₁ t₂ : St F)
    (h₁ : net.solveWith sched₁ = .ok t₁) (h₂ : net.solveWith sched₂ = .ok t₂) :
    ∀ x ∈ net.exposed, ∀ y ∈ net.exposed, t₁.sem x.2 y.2 = t₂.sem x.2 y.2 :=
  solveWith_schedule_independent net wf sched₁ sched₂ t₁ t₂ h₁ h₂ ex.nodup ex.free

/-- the pin-count heuristic of `Solver.solve` is one particular schedule -/
theorem C03_heuristic_is_a_schedule (net : NetD F) (wf : net.WF) (ex : net.ExposureOK) (sched) (t₁ t₂ : St F)
    (h₁ : net.solveWith Solve.pySched = .ok t₁) (h₂ : net.solveWith sched = .ok t₂) :
    ∀ x ∈ net.exposed, ∀ y ∈ net.exposed, t₁.sem x.2 y.2 = t₂.sem x.2 y.2 :=
  C03_schedule_independent net wf ex _ _ t₁ t₂ h₁ h₂

/-- the network relation only depends on the *set* of links (ends in either order) and the *set* of exposed pins -/
theorem Sol_congr (net net' : NetD F) (hcomps : net'.comps = net.comps)
    (hlinks : ∀ p q, net'.Lnk p q ↔ net.Lnk p q)
    (hexp : ∀ p, p ∈ net'.exposed.map (·.2) ↔ p ∈ net.exposed.map (·.2))
    (a b : PinRef → F) (h : net.Sol a b) : net'.Sol a b := by
  have hinit : ∀ s' ∈ net'.initial, ∃ s ∈ net.initial, s.pins = s'.pins ∧ s.sem = s'.sem :=
    forall_initial.2 fun k c hk => ⟨net.mkSt k c, (mem_initial net _).2 ⟨k, c, hcomps ▸ hk, rfl⟩, rfl, rfl⟩
  refine ⟨fun s' hs' => ?_, fun l hl => h.lnk ((hlinks l.1 l.2).1 (.inl hl)), fun s' hs' p hp hfree hne => ?_⟩
  · obtain ⟨s, hs, hp, hsem⟩ := hinit s' hs'
    rw [← hp, ← hsem]
    exact h.comp s hs
  · obtain ⟨s, hs, hpins, _⟩ := hinit s' hs'
    exact h.free s hs p (hpins ▸ hp) (fun q hq => hfree q ((hlinks p q).2 hq)) fun hmem => hne ((hexp p).2 hmem)

/-- **declaration order is irrelevant**: two descriptions of the same circuit — the same components, the same set of
connections listed in any order with their two ends in either order, the same exposures listed in any order —
solved with any two merge schedules give the same coefficient between every pair of exposed pins -/
theorem C03_declaration_independent (net net' : NetD F) (wf : net.WF) (wf' : net'.WF) (ex : net.ExposureOK)
    (ex' : net'.ExposureOK) (hcomps : net'.comps = net.comps) (hlinks : ∀ p q, net'.Lnk p q ↔ net.Lnk p q)
    (hperm : net'.exposed.Perm net.exposed) (sched sched') (t t' : St F)
    (h : net.solveWith sched = .ok t) (h' : net'.solveWith sched' = .ok t') :
    ∀ x ∈ net.exposed, ∀ y ∈ net.exposed, t.sem x.2 y.2 = t'.sem x.2 y.2 := by
  have hs := C01_solve_solves net wf ex sched t h
  -- the second operator reads out the solutions of the first description too
  refine readout_unique net ex.nodup t.sem t'.sem hs.1 (fun a b hab e he => ?_) hs.2
  rw [(C01_solve_solves net' wf' ex' sched' t' h').1 a b
    (Sol_congr net net' hcomps hlinks (fun p => (hperm.map _).mem_iff) a b hab) e (hperm.symm.subset he)]
  exact (hperm.map _).sum_eq
