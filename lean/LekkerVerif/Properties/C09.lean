import LekkerVerif.Generated.Tables
import LekkerVerif.Proofs.BlocksTie

/-! # C09 — library blocks implement their documented physics; uniform model interface

Interface part: facts the translator establishes on every run by instantiating every documented block class of the
current source with int / float / numpy-typed arguments (`Generated/Tables.lean`), decided over the whole finite table.  Physics part: the theorems below are about the
matrices of `Generated/Blocks.lean`, which the translator obtains on every run by executing the block classes of the
current source with symbolic parameters (`harness/translate/blocks.py`); `Proofs/BlocksTie.lean` identifies each
traced matrix with a hand-written closed form (`Proofs/Blocks.lean`) by a script that tolerates re-association and
equivalent spellings, and the physics is proved for *all* real parameter values in the stated range.  An edit of a
formula that changes its meaning breaks the identification (the obligation no longer builds). -/

namespace C09

/-- every documented block class builds its pin-name table at construction (calls `update_pins()`),
so it can be placed and wired by pin name -/
theorem C09_interface_uniform :
    ∀ b ∈ Generated.blocks, b.1 ∈ Generated.docBlocks → b.2.1 = true := by
  -- `+kernel`: the elaborator's own evaluation of the 300 string comparisons is as dear as the kernel's
  decide +kernel

/-- every documented block class is present in the source -/
theorem C09_blocks_present :
    ∀ n ∈ Generated.docBlocks, ∃ b ∈ Generated.blocks, b.1 = n ∧ b.2.2 ≠ "missing" := by decide +kernel

/-- every documented block class can be printed whatever numeric types its arguments have -/
theorem C09_str_specs : (∀ s ∈ Generated.strOk, s.2 = true) ∧ ∀ n ∈ Generated.docBlocks, ∃ s ∈ Generated.strOk, s.1 = n := by
  decide +kernel

open Matrix
open Generated.Blocks

/-- the matrix built by the current source is the modelled closed form, block by block (semantic tie) -/
theorem C09_src_closed_forms :
    (∀ L n wl : ℝ, waveguide L n wl = Blocks.waveguide L n wl) ∧
    (∀ L wl n0 n1 : ℝ, userWaveguide2 L wl n0 n1 = Blocks.userWaveguide2 L wl n0 n1) ∧
    (∀ ratio phase : ℝ, beamSplitter ratio phase = Blocks.beamSplitter ratio phase) ∧
    (∀ ratio t phase : ℝ, beamSplitterT ratio t phase = Blocks.beamSplitterT ratio t phase) ∧
    splitter1x2 = Blocks.splitter1x2 ∧
    (∀ ps : ℝ, phaseShifter ps = Blocks.phaseShifter ps) ∧
    (∀ ps : ℝ, pushPull ps = Blocks.pushPull ps) ∧
    (∀ angle : ℝ, polRotFixed angle = Blocks.polRot angle) ∧
    (∀ angle : ℝ, polRotVar angle = Blocks.polRot angle) ∧
    (∀ loss : ℝ, attenuator loss = Blocks.attenuator loss) ∧
    (∀ c : ℝ, linearAttenuator c = Blocks.linearAttenuator c) ∧
    (∀ ref phase : ℝ, mirror ref phase = Blocks.mirror ref phase) ∧
    (∀ phase : ℝ, perfectMirror phase = Blocks.perfectMirror phase) ∧
    (∀ L n wl ps : ℝ, thPhaseShifter L n wl ps = Blocks.thPhaseShifter L n wl ps) ∧
    (∀ cross phase : ℝ, splitter1x2Gen cross phase = Blocks.splitter1x2Gen cross phase) :=
  ⟨BlocksTie.waveguide, BlocksTie.userWaveguide2, BlocksTie.beamSplitter, BlocksTie.beamSplitterT, BlocksTie.splitter1x2,
   BlocksTie.phaseShifter, BlocksTie.pushPull, BlocksTie.polRotFixed, BlocksTie.polRotVar, BlocksTie.attenuator,
   BlocksTie.linearAttenuator, BlocksTie.mirror, BlocksTie.perfectMirror, BlocksTie.thPhaseShifter,
   BlocksTie.splitter1x2Gen⟩

/-- the rows the closed forms are written in are the documented pins: every traced block carries the documented pin names,
each on its own matrix row, in the documented order (so "the coefficient from a0 to b0" of the theorems below is entry
`(row of b0, column of a0)` of the generated matrix) -/
theorem C09_src_pins :
    Generated.Blocks.pins =
      [("waveguide", [("a0", 0), ("b0", 1)]),
       ("userWaveguide2", [("a0_m0", 0), ("b0_m0", 1), ("a0_m1", 2), ("b0_m1", 3)]),
       ("beamSplitter", [("a0", 0), ("a1", 1), ("b0", 2), ("b1", 3)]),
       ("beamSplitterT", [("a0", 0), ("a1", 1), ("b0", 2), ("b1", 3)]),
       ("splitter1x2", [("a0", 0), ("b0", 1), ("b1", 2)]),
       ("phaseShifter", [("a0", 0), ("b0", 1)]),
       ("pushPull", [("a0", 0), ("b0", 1), ("a1", 2), ("b1", 3)]),
       ("polRotFixed", [("a0_pol0", 0), ("a0_pol1", 1), ("b0_pol0", 2), ("b0_pol1", 3)]),
       ("polRotVar", [("a0_pol0", 0), ("a0_pol1", 1), ("b0_pol0", 2), ("b0_pol1", 3)]),
       ("attenuator", [("a0", 0), ("b0", 1)]),
       ("linearAttenuator", [("a0", 0), ("b0", 1)]),
       ("mirror", [("a0", 0), ("b0", 1)]),
       ("perfectMirror", [("a0", 0)]),
       ("thPhaseShifter", [("a0", 0), ("b0", 1)]),
       ("splitter1x2Gen", [("a0", 0), ("b0", 1), ("b1", 2)])] := rfl

/-- waveguide: phase `2π n L / wl`, no reflection, symmetric, lossless -/
theorem C09_waveguide (L n wl : ℝ) :
    waveguide L n wl 0 1 = Complex.exp (((2 * Real.pi * n * L / wl : ℝ) : ℂ) * Complex.I) ∧
    waveguide L n wl 0 0 = 0 ∧ waveguide L n wl 1 1 = 0 ∧ (waveguide L n wl)ᵀ = waveguide L n wl ∧
    (waveguide L n wl)ᴴ * waveguide L n wl = 1 := by
  rw [BlocksTie.waveguide]
  exact ⟨Blocks.waveguide_phase L n wl, rfl, rfl, Blocks.antidiag_symm _, Blocks.waveguide_unitary L n wl⟩

/-- multi-mode waveguide (two modes traced): each mode is a waveguide with its own index, modes do not mix, lossless -/
theorem C09_userWaveguide (L wl n0 n1 : ℝ) :
    (∀ i j : Fin 2, userWaveguide2 L wl n0 n1 (Fin.castLE (by norm_num) i) (Fin.castLE (by norm_num) j) = waveguide L n0 wl i j) ∧
    (∀ i j : Fin 2, userWaveguide2 L wl n0 n1 (Fin.natAdd 2 i) (Fin.natAdd 2 j) = waveguide L n1 wl i j) ∧
    (∀ i j : Fin 2, userWaveguide2 L wl n0 n1 (Fin.castLE (by norm_num) i) (Fin.natAdd 2 j) = 0) ∧
    (∀ i j : Fin 2, userWaveguide2 L wl n0 n1 (Fin.natAdd 2 i) (Fin.castLE (by norm_num) j) = 0) ∧
    (userWaveguide2 L wl n0 n1)ᴴ * userWaveguide2 L wl n0 n1 = 1 := by
  rw [BlocksTie.userWaveguide2, BlocksTie.waveguide, BlocksTie.waveguide]
  obtain ⟨a, b, c, d⟩ := Blocks.userWaveguide2_modes L wl n0 n1
  exact ⟨a, b, c, d, Blocks.userWaveguide2_unitary L wl n0 n1⟩

/-- phase shifter: phase `π PS`, lossless -/
theorem C09_phaseShifter (ps : ℝ) :
    phaseShifter ps 0 1 = Complex.exp (((Real.pi * ps : ℝ) : ℂ) * Complex.I) ∧ (phaseShifter ps)ᴴ * phaseShifter ps = 1 := by
  rw [BlocksTie.phaseShifter]
  exact ⟨Blocks.phaseShifter_phase ps, Blocks.phaseShifter_unitary ps⟩

/-- thermal phase shifter: the two phases added, `2π n L / wl + π PS`, lossless -/
theorem C09_thPhaseShifter (L n wl ps : ℝ) :
    thPhaseShifter L n wl ps 0 1 = Complex.exp (((2 * Real.pi * n * L / wl + Real.pi * ps : ℝ) : ℂ) * Complex.I) ∧
    (thPhaseShifter L n wl ps)ᴴ * thPhaseShifter L n wl ps = 1 := by
  rw [BlocksTie.thPhaseShifter]
  exact ⟨Blocks.thPhaseShifter_phase L n wl ps, Blocks.thPhaseShifter_unitary L n wl ps⟩

/-- push-pull: `± π PS / 2` on the two arms, lossless -/
theorem C09_pushPull (ps : ℝ) :
    pushPull ps 0 1 = Complex.exp (((Real.pi * ps / 2 : ℝ) : ℂ) * Complex.I) ∧
    pushPull ps 2 3 = Complex.exp (((-(Real.pi * ps / 2) : ℝ) : ℂ) * Complex.I) ∧ (pushPull ps)ᴴ * pushPull ps = 1 := by
  rw [BlocksTie.pushPull]
  exact ⟨(Blocks.pushPull_phase ps).1, (Blocks.pushPull_phase ps).2, Blocks.pushPull_unitary ps⟩

/-- attenuators: `10^(-loss/10)` resp. `c` in power; passive in the physical range -/
theorem C09_attenuator (loss : ℝ) :
    Complex.normSq (attenuator loss 0 1) = (10 : ℝ) ^ (-loss / 10) ∧ (0 ≤ loss → Complex.normSq (attenuator loss 0 1) ≤ 1) := by
  rw [BlocksTie.attenuator]
  exact ⟨Blocks.attenuator_power loss, Blocks.attenuator_passive loss⟩

theorem C09_linearAttenuator (c : ℝ) (h0 : 0 ≤ c) :
    Complex.normSq (linearAttenuator c 0 1) = c ∧ (c ≤ 1 → Complex.normSq (linearAttenuator c 0 1) ≤ 1) := by
  rw [BlocksTie.linearAttenuator]
  exact ⟨Blocks.linearAttenuator_power c h0, Blocks.linearAttenuator_passive c h0⟩

/-- beam splitter (t = None): stated power ratios, no reflection, lossless for every ratio in [0,1] and every phase -/
theorem C09_beamSplitter (ratio phase : ℝ) (h0 : 0 ≤ ratio) (h1 : ratio ≤ 1) :
    Complex.normSq (beamSplitter ratio phase 0 2) = 1 - ratio ∧ Complex.normSq (beamSplitter ratio phase 0 3) = ratio ∧
    beamSplitter ratio phase 0 0 = 0 ∧ beamSplitter ratio phase 0 1 = 0 ∧
    (beamSplitter ratio phase)ᴴ * beamSplitter ratio phase = 1 := by
  rw [BlocksTie.beamSplitter]
  obtain ⟨a, b, _, _, c, d, _, _⟩ := Blocks.beamSplitter_power ratio phase h0 h1
  exact ⟨a, b, c, d, Blocks.beamSplitter_unitary ratio phase h0 h1⟩

/-- beam splitter with an explicit power transmission `t`: through `t`, cross `ratio`, in both directions, no reflection -/
theorem C09_beamSplitterT (ratio t phase : ℝ) (h0 : 0 ≤ ratio) (ht : 0 ≤ t) :
    Complex.normSq (beamSplitterT ratio t phase 0 2) = t ∧ Complex.normSq (beamSplitterT ratio t phase 0 3) = ratio ∧
    Complex.normSq (beamSplitterT ratio t phase 2 0) = t ∧ Complex.normSq (beamSplitterT ratio t phase 3 0) = ratio ∧
    beamSplitterT ratio t phase 0 0 = 0 ∧ beamSplitterT ratio t phase 0 1 = 0 := by
  rw [BlocksTie.beamSplitterT]
  exact Blocks.beamSplitterT_power ratio t phase h0 ht

/-- mirror: `|S00|² = ref`, `|S01|² = 1 - ref`, power-reciprocal, lossless -/
theorem C09_mirror (ref phase : ℝ) (h0 : 0 ≤ ref) (h1 : ref ≤ 1) :
    Complex.normSq (mirror ref phase 0 0) = ref ∧ Complex.normSq (mirror ref phase 0 1) = 1 - ref ∧
    Complex.normSq (mirror ref phase 1 0) = Complex.normSq (mirror ref phase 0 1) ∧
    (mirror ref phase)ᴴ * mirror ref phase = 1 := by
  rw [BlocksTie.mirror]
  obtain ⟨a, _, c, d⟩ := Blocks.mirror_power ref phase h0 h1
  exact ⟨a, c, d.trans c.symm, Blocks.mirror_unitary ref phase h0 h1⟩

/-- perfect mirror (one port): all power is reflected -/
theorem C09_perfectMirror (phase : ℝ) : Complex.normSq (perfectMirror phase 0 0) = 1 := by
  rw [BlocksTie.perfectMirror]; exact Blocks.perfectMirror_unit phase

/-- polarisation rotator (fixed angle and angle read from the parameter): rotation by `π angle`, lossless -/
theorem C09_polRot (angle : ℝ) :
    polRotFixed angle = polRotVar angle ∧
    polRotVar angle 0 2 = (Real.cos (Real.pi * angle) : ℝ) ∧ polRotVar angle 0 3 = (Real.sin (Real.pi * angle) : ℝ) ∧
    (polRotVar angle)ᴴ * polRotVar angle = 1 := by
  rw [BlocksTie.polRotFixed, BlocksTie.polRotVar]
  exact ⟨rfl, (Blocks.polRot_rotation angle).1, (Blocks.polRot_rotation angle).2.1, Blocks.polRot_unitary angle⟩

/-- 1×2 splitter: 50/50, no reflection at a0, never gain -/
theorem C09_splitter1x2 :
    Complex.normSq (splitter1x2 1 0) = 1 / 2 ∧ Complex.normSq (splitter1x2 2 0) = 1 / 2 ∧ splitter1x2 0 0 = 0 ∧
    ∀ x : Fin 3 → ℂ, ∑ i, Complex.normSq ((splitter1x2 *ᵥ x) i) ≤ ∑ i, Complex.normSq (x i) := by
  rw [BlocksTie.splitter1x2]
  exact ⟨Blocks.splitter1x2_power.1, Blocks.splitter1x2_power.2.1, Blocks.splitter1x2_power.2.2, Blocks.splitter1x2_passive⟩

/-! ### recorded findings (negative results, with the witness the harness replays on the real code)

`FPR_NxM` and `Splitter1x2Gen` are in the documented model list but do not meet the generic claims; both carry the
authors' own "TODO: check / verify this model makes sense".  They are listed in `known_findings.json`. -/

/-- `FPR_NxM(N, M)` scales the block from the `b` pins to the `a` pins by `1/√M` and the block back by `1/√N`, every
entry having unit modulus before scaling: for `N = 3`, `M = 4` the two moduli differ — not power-reciprocal -/
theorem C09_FPR_NxM_not_reciprocal : (1 / Real.sqrt 4 : ℝ) ≠ 1 / Real.sqrt 3 := by
  intro h
  rw [one_div, one_div, inv_inj, Real.sqrt_inj (by norm_num) (by norm_num)] at h
  norm_num at h

/-- … and not passive: at `phi = 0` the 4×3 block towards the `b` pins has all entries `1/√3`; the unit-power input
`(1/√3, 1/√3, 1/√3)` comes out with total power 4 -/
theorem C09_FPR_NxM_gain :
    let A : Matrix (Fin 4) (Fin 3) ℝ := fun _ _ => 1 / Real.sqrt 3
    let x : Fin 3 → ℝ := fun _ => 1 / Real.sqrt 3
    (∑ j, x j ^ 2 = 1) ∧ (∑ i, (A *ᵥ x) i ^ 2 = 4) := by
  intro A x
  have h : (1 / Real.sqrt 3) * (1 / Real.sqrt 3) = 1 / 3 := by
    rw [div_mul_div_comm, Real.mul_self_sqrt (by norm_num), one_mul]
  have hA (i) : (A *ᵥ x) i = 1 := by
    simp only [Matrix.mulVec, dotProduct, A, x, Fin.sum_univ_three, h]; norm_num
  constructor
  · simp only [Fin.sum_univ_three, x, sq, h]; norm_num
  · simp only [Fin.sum_univ_four, hA]; norm_num

end C09
