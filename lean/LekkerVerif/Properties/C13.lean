import LekkerVerif.Model.Modes
import LekkerVerif.Core.ModesNet
import LekkerVerif.Generated.Modes
import Mathlib.Tactic.FinCases

/-! # C13 — modes are independent: expand_mode replicates, connect_all pairs like modes -/

namespace Modes

theorem expandIndex_div_mod (N i n : Nat) (hn : n < N) : expandIndex N i n / N = i ∧ expandIndex N i n % N = n := by
  unfold expandIndex
  have hN : 0 < N := by omega
  constructor
  · rw [Nat.mul_comm, Nat.mul_add_div hN, Nat.div_eq_of_lt hn]; rfl
  · rw [Nat.mul_comm, Nat.mul_add_mod, Nat.mod_eq_of_lt hn]

theorem expandIndex_lt (N k i n : Nat) (hi : i < k) (hn : n < N) : expandIndex N i n < k * N :=
  calc i * N + n < (i + 1) * N := by rw [Nat.add_mul, Nat.one_mul]; omega
    _ ≤ k * N := Nat.mul_le_mul_right N hi

/-- **expand_mode replicates**: the coefficient between (pin n, mode i) and (pin m, mode j) of the expanded
model is the single-mode coefficient when i = j and zero otherwise — every N, every number of modes -/
theorem C13_expand {F : Type} [OfNat F 0] (N k : Nat) (S : Nat → Nat → F) (i j n m : Nat)
    (hi : i < k) (hj : j < k) (hn : n < N) (hm : m < N) :
    diagBlocks N k S (expandIndex N i n) (expandIndex N j m) = if i = j then S n m else 0 := by
  obtain ⟨d1, m1⟩ := expandIndex_div_mod N i n hn
  obtain ⟨d2, m2⟩ := expandIndex_div_mod N j m hm
  unfold diagBlocks
  rw [d1, d2, m1, m2]
  by_cases h : i = j
  · rw [if_pos ⟨expandIndex_lt N k i n hi hn, expandIndex_lt N k j m hj hm, h⟩, if_pos h]
  · rw [if_neg fun c => h c.2.2, if_neg h]

/-- the index layout is injective: distinct (mode, pin) pairs get distinct matrix indices -/
theorem C13_index_injective (N i j n m : Nat) (hn : n < N) (hm : m < N)
    (h : expandIndex N i n = expandIndex N j m) : i = j ∧ n = m := by
  obtain ⟨d1, m1⟩ := expandIndex_div_mod N i n hn
  obtain ⟨d2, m2⟩ := expandIndex_div_mod N j m hm
  exact ⟨by rw [← d1, ← d2, h], by rw [← m1, ← m2, h]⟩

/-- **connect_all links exactly the common modes**, each with its like-named partner -/
theorem C13_connect_all (b1 b2 : String) (modes1 modes2 : List String) (l : (String × String) × (String × String)) :
    l ∈ connectAllLinks b1 b2 modes1 modes2 ↔
      ∃ m, m ∈ modes1 ∧ m ∈ modes2 ∧ l = ((b1, m), (b2, m)) := by
  unfold connectAllLinks connectAllModes
  simp only [List.mem_map, List.mem_filter, List.contains_eq_mem, decide_eq_true_eq]
  constructor
  · rintro ⟨m, ⟨h1, h2⟩, rfl⟩; exact ⟨m, h1, h2, rfl⟩
  · rintro ⟨m, h1, h2, rfl⟩; exact ⟨m, ⟨h1, h2⟩, rfl⟩

/-- no mode is linked twice when the first structure's mode names are distinct -/
theorem C13_connect_all_nodup (modes1 modes2 : List String) (h : modes1.Nodup) :
    (connectAllModes modes1 modes2).Nodup := by
  unfold connectAllModes
  exact h.sublist List.filter_sublist

/-! The current source, traced: `expand_mode` + `_expand_S` + `diag_blocks` executed on a symbolic two-pin model and three
modes (`Generated/Modes.lean`) are the model at that instance -/

def ofFin2 {F : Type} [Zero F] (S : Fin 2 → Fin 2 → F) (i j : Nat) : F :=
  if h : i < 2 ∧ j < 2 then S ⟨i, h.1⟩ ⟨j, h.2⟩ else 0

/-- the matrix the expanded model of the current source returns is `diagBlocks` of the single-mode matrix, entry by entry -/
theorem C13_src_expand {F : Type} [Zero F] (S : Fin 2 → Fin 2 → F) (a b : Fin 6) :
    Generated.Modes.expandedS S a b = diagBlocks (F := F) 2 3 (ofFin2 S) a.1 b.1 := by
  fin_cases a <;> fin_cases b <;> rfl

/-- the index the model predicts for (basename, mode) -/
def predictedIdx (e : (String × String) × Nat) : Option Nat :=
  (Generated.Modes.singleIdx.lookup e.1.1).bind fun n =>
    (Generated.Modes.modeNumber.lookup e.1.2).map fun i => expandIndex 2 i n

/-- every pin of the expanded model of the current source sits at `expandIndex` (mode position, single-mode index) -/
theorem C13_src_index :
    Generated.Modes.expandedIdx.length = 6 ∧ ∀ e ∈ Generated.Modes.expandedIdx, predictedIdx e = some e.2 := by
  decide

example : diagBlocks 2 3 (fun a b => a + 10 * b + 1) (expandIndex 2 1 1) (expandIndex 2 1 0) = 2 ∧
          diagBlocks 2 3 (fun a b => a + 10 * b + 1) (expandIndex 2 1 1) (expandIndex 2 2 0) = 0 := by decide
example : connectAllLinks "a" "b" ["TE", "TM"] ["TM", "m2"] = [(("a", "TM"), ("b", "TM"))] := by decide

end Modes

/-- **modes are independent, any list of modes**: `N.expandedL ms` is the circuit the code builds from a single-mode
circuit `N` for the mode list `ms`: every block one part on the pins `(p, m)`, `m ∈ ms`, with the block-diagonal matrix
of `expand_mode` (`C13_expand`), like modes linked by `connect_all` (`C13_connect_all`), every exposed pin exposed per
mode.  Whatever operator solves it has the single-mode coefficient between like modes and zero between different ones -/
theorem C13_network_independent_modes {F : Type} [Field F] {P M : Type} [DecidableEq P] [DecidableEq M]
    (N : ANet P F) (cl : N.Closed) (hn : N.exposed.Nodup) (T : P → P → F) (h : N.SolvedBy T)
    (ms : List M) (hms : ms.Nodup) (Tm : P × M → P × M → F) (hT : (N.expandedL ms).SolvedBy Tm) :
    ∀ m ∈ ms, ∀ m' ∈ ms, ∀ p ∈ N.exposed, ∀ q ∈ N.exposed, Tm (p, m) (q, m') = if m = m' then T p q else 0 :=
  ANet.expandedL_independent N hn T h ms hms Tm hT

/-- … and the multi-mode circuit is solved by the block-diagonal operator whenever the single-mode circuit is solved -/
theorem C13_network_solved_modes {F : Type} [Field F] {P M : Type} [DecidableEq P] [DecidableEq M]
    (N : ANet P F) (cl : N.Closed) (T : P → P → F) (h : N.SolvedBy T) (ms : List M) (hms : ms.Nodup) :
    (N.expandedL ms).SolvedBy (ANet.diagOp T) :=
  ANet.expandedL_solved N T h ms hms

/-- **a circuit assembled from mode-expanded blocks behaves as independent copies of the single-mode circuit**, for two
modes: `N.expanded2 m₁ m₂` is `N.expandedL [m₁, m₂]`.  Whatever operator `Tm` solves that circuit has the single-mode
coefficient between like modes and zero between different modes -/
theorem C13_network_independent {F : Type} [Field F] {P M : Type} [DecidableEq P] [DecidableEq M]
    (N : ANet P F) (cl : N.Closed) (hn : N.exposed.Nodup) (T : P → P → F) (h : N.SolvedBy T)
    (m₁ m₂ : M) (hne : m₁ ≠ m₂) (Tm : P × M → P × M → F) (hT : (N.expanded2 m₁ m₂).SolvedBy Tm) :
    ∀ p ∈ N.exposed, ∀ q ∈ N.exposed,
      Tm (p, m₁) (q, m₁) = T p q ∧ Tm (p, m₂) (q, m₂) = T p q ∧ Tm (p, m₁) (q, m₂) = 0 ∧ Tm (q, m₂) (p, m₁) = 0 := by
  rw [ANet.expanded2_eq] at hT
  have hms : [m₁, m₂].Nodup := by simp [hne]
  have k := C13_network_independent_modes N cl hn T h [m₁, m₂] hms Tm hT
  have i₁ : m₁ ∈ [m₁, m₂] := by simp
  have i₂ : m₂ ∈ [m₁, m₂] := by simp
  intro p hp q hq
  rw [k m₁ i₁ m₁ i₁ p hp q hq, k m₂ i₂ m₂ i₂ p hp q hq, k m₁ i₁ m₂ i₂ p hp q hq, k m₂ i₂ m₁ i₁ q hq p hp]
  simp [hne, Ne.symm hne]

/-- … and such an operator exists whenever the single-mode circuit has one (the two-mode circuit is solvable) -/
theorem C13_network_solved {F : Type} [Field F] {P M : Type} [DecidableEq P] [DecidableEq M]
    (N : ANet P F) (cl : N.Closed) (T : P → P → F) (h : N.SolvedBy T) (m₁ m₂ : M) (hne : m₁ ≠ m₂)
    [∀ x, Decidable ((N.atMode m₁).pinSet x)] :
    (N.expanded2 m₁ m₂).SolvedBy (ANet.sumOp (N.atMode m₁) (fun x y => T x.1 y.1) (fun x y => T x.1 y.1)) := by
  rw [ANet.expanded2_eq]
  refine ANet.solvedBy_congr _ _ _ ?_ (ANet.expandedL_solved N T h [m₁, m₂] (by simp [hne]))
  intro x hx y hy
  obtain ⟨hxm, hxp⟩ := (ANet.mem_bundle_exposed N _ x).1 hx
  obtain ⟨hym, hyp⟩ := (ANet.mem_bundle_exposed N _ y).1 hy
  have ex : (N.atMode m₁).pinSet x ↔ x.2 = m₁ := (ANet.atMode_pinSet N m₁ x).trans (and_iff_left (cl.exposed _ hxp))
  have ey : (N.atMode m₁).pinSet y ↔ y.2 = m₁ := (ANet.atMode_pinSet N m₁ y).trans (and_iff_left (cl.exposed _ hyp))
  simp only [List.mem_cons, List.not_mem_nil, or_false] at hxm hym
  rcases hxm with e1 | e1 <;> rcases hym with e2 | e2 <;>
    simp [ANet.sumOp, ANet.diagOp, ex, ey, e1, e2, hne, Ne.symm hne]
