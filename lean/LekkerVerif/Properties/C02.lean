import LekkerVerif.Properties.C01

/-! # C02 — hierarchy is transparent

At every level of a hierarchy the matrix a (sub-)solver hands to its parent is the solution operator of that level's
network (C01, any schedule), and that operator is unique; a solver that holds one component returns that component's own
matrix.  So a parent sees a placed solver as a component carrying the solution operator of the child, and by the
substitution theorem (`ANet.substitution_iff`, Core/Subst.lean) the parent network with that component has the same
solution operators as the network with the child's contents inlined.  The *executable* recursion over a whole hierarchy
(`HNet.solveH`, what the driver runs) is tied to the flat circuit in Properties/C02Hier.lean. -/

open NetD Solve

variable {F : Type} [Field F] [DecidableEq F]

/-- **single-structure fast path**: a solver that contains one component returns that component's own
matrix, whatever is exposed (bare component = wrapped component) -/
theorem C02_bare_component (c : CompD F) (exposed : List (String × PinRef)) (sched) :
    let net : NetD F := { comps := [c], links := [], exposed := exposed }
    net.solveWith sched = .ok (net.mkSt 0 c) :=
  -- by evaluation: the initial list is `[net.mkSt 0 c]`, and on a single structure the loop returns it at once
  rfl

/-- the matrix of the wrapped component is the component's matrix on its pins -/
theorem C02_bare_component_sem (c : CompD F) (exposed : List (String × PinRef)) (p q : String) :
    let net : NetD F := { comps := [c], links := [], exposed := exposed }
    (net.mkSt 0 c).sem (0, p) (0, q) =
      match lookupL (c.idx.map fun ni => (((0 : Nat), ni.1), ni.2)) (0, p), lookupL (c.idx.map fun ni => (((0 : Nat), ni.1), ni.2)) (0, q) with
      | some i, some j => c.S.get i j
      | _, _ => default :=
  rfl

/-- **every level hands up the solution operator of its own network** (C01 applied at that level), and that
operator is the only one: a parent cannot tell a placed solver from a component with this matrix -/
theorem C02_level_is_solution_operator (net : NetD F) (wf : net.WF) (ex : net.ExposureOK) (sched) (total : St F)
    (h : net.solveWith sched = .ok total) (T : PinRef → PinRef → F) (hT : net.SolvedBy T) :
    ∀ x ∈ net.exposed, ∀ y ∈ net.exposed, total.sem x.2 y.2 = T x.2 y.2 :=
  C01_solution_unique net ex.nodup total.sem T (C01_solve_solves net wf ex sched total h) hT

/-- **hierarchy is transparent**: let a sub-circuit be solved by the elimination loop (any schedule) and placed in a
parent — any other parts `out`, any parent links `Lp` reaching it through its exposed pins, any parent exposure `E`
(`ANet.Placed`).  Then an operator `T` is the solution operator of the parent network, in which the sub-circuit is one
component carrying the matrix its own `solve()` returned, if and only if `T` is the solution operator of the equivalent
single-level network made of the same components and connections. -/
theorem C02_transparent (child : NetD F) (wf : child.WF) (ex : child.ExposureOK) (sched) (total : St F)
    (h : child.solveWith sched = .ok total)
    (out : List (List PinRef × (PinRef → PinRef → F))) (Lp : List (PinRef × PinRef)) (E : List PinRef)
    (pl : ANet.Placed out child.toANet Lp E) (T : PinRef → PinRef → F) :
    (ANet.parent out child.toANet total.sem Lp E).SolvedBy T ↔ (ANet.inlined out child.toANet Lp E).SolvedBy T :=
  ANet.substitution_iff pl total.sem total.sem T
    (child.toANet_solvedBy total.sem (C01_solve_solves child wf ex sched total h)) fun _ _ _ _ => rfl

/-- **any nesting depth**: a grandchild inside a child inside a parent — the parent's operator is the operator of the
fully inlined network (one application of the substitution per level; the statement iterates in the same way) -/
theorem C02_transparent_nested {P : Type} [DecidableEq P]
    (gc : ANet P F) (outc : List (List P × (P → P → F))) (Lc : List (P × P)) (Ec : List P)
    (out : List (List P × (P → P → F))) (Lp : List (P × P)) (E : List P)
    (Tg Tc T : P → P → F)
    (pl1 : ANet.Placed outc gc Lc Ec) (hg : gc.SolvedBy Tg) (hc : (ANet.parent outc gc Tg Lc Ec).SolvedBy Tc)
    (pl2 : ANet.Placed out (ANet.inlined outc gc Lc Ec) Lp E)
    (hT : (ANet.parent out (ANet.parent outc gc Tg Lc Ec) Tc Lp E).SolvedBy T) :
    (ANet.inlined out (ANet.inlined outc gc Lc Ec) Lp E).SolvedBy T := by
  have h1 : (ANet.inlined outc gc Lc Ec).SolvedBy Tc := ANet.substitution pl1 Tg Tg Tc hg (fun _ _ _ _ => rfl) hc
  exact ANet.substitution pl2 Tc Tc T h1 (fun _ _ _ _ => rfl) hT

/-- non-vacuity of `Placed` -/
example : ANet.Placed (P := Nat) (F := F) [([2, 3], fun _ _ => 0)]
    { parts := [([0, 1], fun _ _ => 0)], links := [], exposed := [0, 1] } [(1, 2)] [0, 3] := by
  have ps (p : Nat) : ANet.pinSet (F := F) { parts := [([0, 1], fun _ _ => 0)], links := [], exposed := [0, 1] } p ↔ p ∈ [0, 1] :=
    ⟨fun ⟨_, hc, hp⟩ => by rwa [List.mem_singleton.1 hc] at hp, fun hp => ⟨_, List.mem_singleton_self _, hp⟩⟩
  refine ⟨fun part hp p hpp hc => ?_, nofun, fun e he => ⟨(ps e).2 he, fun q hq => by cases hq <;> contradiction⟩,
    fun l hl => ?_, fun e _ he => (ps e).1 he⟩
  · cases List.mem_singleton.1 hp
    have := (ps p).1 hc
    simp at hpp this
    omega
  · cases List.mem_singleton.1 hl
    exact ⟨(ps 1).1, (ps 2).1⟩
