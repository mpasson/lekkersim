import LekkerVerif.Model.Stack
import LekkerVerif.Generated.Tables

/-! # C17 — the active-solver stack follows with-block nesting

`Stack.exec` interprets programs built from helper calls, `raise`, `with s: …` and `try: … except`.
The enter/exit behaviour is the one the translator reads from `Solver.__enter__/__exit__` in the
current source, and the helper table lists, for every module-level helper, which stack element it
dereferences. -/

namespace Stack

/-- the configuration found in the source today -/
def srcCfg : Cfg :=
  ⟨match Generated.enterKind with | .push => .push | _ => .nop,
   match Generated.exitKind with
   | .popAlways => .popAlways | .popOnNormal => .popOnNormal | .popOnRaise => .popOnRaise | _ => .nop⟩

/-- the source pushes on enter and pops unconditionally on exit -/
theorem C17_source_cfg : Generated.enterKind = .push ∧ Generated.exitKind = .popAlways ∧ srcCfg = Cfg.py := by
  decide

mutual
theorem exec_balanced_py : ∀ (p : Prog) (stk : List Nat), (exec Cfg.py p stk).1 = stk
  | .helper h, stk => rfl
  | .raise, stk => rfl
  | .withS s body, stk => congrArg List.tail (execList_balanced_py body (s :: stk))
  | .tryS body, stk => execList_balanced_py body stk
theorem execList_balanced_py : ∀ (ps : List Prog) (stk : List Nat), (execList Cfg.py ps stk).1 = stk
  | [], stk => rfl
  | p :: ps, stk => by
      have h := exec_balanced_py p stk
      rw [execList]
      generalize exec Cfg.py p stk = r at h ⊢
      obtain ⟨stk', ev, _ | _⟩ := r <;> cases h
      · exact execList_balanced_py ps _
      · rfl
end

/-- **balanced**: after any program — any nesting, any re-entrant use of a solver, any point at which an
exception leaves a block, caught or not — the stack of active solvers equals the one before it -/
theorem C17_balanced (p : Prog) (stk : List Nat) : (exec srcCfg p stk).1 = stk := by
  rw [C17_source_cfg.2.2]; exact exec_balanced_py p stk

theorem C17_balanced_block (ps : List Prog) (stk : List Nat) : (execList srcCfg ps stk).1 = stk := by
  rw [C17_source_cfg.2.2]; exact execList_balanced_py ps stk

theorem events_append (pre rest : List Prog) (stk0 : List Nat)
    (hn : (execList Cfg.py pre stk0).2.2 = .normal) :
    (execList Cfg.py (pre ++ rest) stk0).2.1 = (execList Cfg.py pre stk0).2.1 ++ (execList Cfg.py rest stk0).2.1 := by
  induction pre generalizing stk0 with
  | nil => rfl
  | cons p ps ih =>
    have hb := exec_balanced_py p stk0
    rw [execList] at hn
    rw [List.cons_append, execList, execList]
    generalize exec Cfg.py p stk0 = r at hb hn ⊢
    obtain ⟨stk', ev, _ | _⟩ := r <;> cases hb
    · show ev ++ _ = ev ++ _ ++ _
      rw [ih _ hn, List.append_assoc]
    · cases hn

/-- **innermost**: a helper called directly in the body of `with s:` (after statements that did not
raise, whatever they nested) acts on `s` -/
theorem C17_innermost (s : Nat) (stk : List Nat) (h : Nat) (pre post : List Prog)
    (hpre : (execList srcCfg pre (s :: stk)).2.2 = .normal) :
    (h, some s) ∈ (exec srcCfg (.withS s (pre ++ [.helper h] ++ post)) stk).2.1 := by
  rw [C17_source_cfg.2.2] at hpre ⊢
  simp only [exec, doEnter, Cfg.py]
  have := events_append pre ([Prog.helper h] ++ post) (s :: stk) hpre
  simp only [Cfg.py] at this
  rw [List.append_assoc, this]
  exact List.mem_append_right _ List.mem_cons_self

/-- every module-level helper dereferences the top of the stack and nothing else -/
theorem C17_helpers : ∀ h ∈ Generated.helpers, h.2 = "top" := by decide

/-! non-vacuity: a nested, re-entrant program with an exception leaving two blocks and caught outside -/
example : (exec srcCfg (.tryS [.withS 1 [.helper 0, .withS 2 [.withS 1 [.helper 1, .raise], .helper 2]]]) [0]) =
    ([0], [(0, some 1), (1, some 1)], .normal) := by decide

end Stack
