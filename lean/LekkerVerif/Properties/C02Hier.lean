import LekkerVerif.Properties.C02
import LekkerVerif.Core.HierSound
import LekkerVerif.Core.WFCheckSpec

/-! # C02 (continued) — the *executable* hierarchical solve is the flat circuit

`HNet.solveH` (Core/HierSolve.lean) is the recursion of the code: every placed sub-solver is solved first, the wrapping structure
adopts the exposed names and the exposed block of the result, the parent level runs the same elimination loop on these
components.  It is the function the native driver runs for the op `hsolve`, compared on every run with the real hierarchical
`Solver.solve` and with the model's solve of the flattened circuit.  `HNet.flat` is the single-level network made of all leaves
and all connections of all levels (pins addressed by their path), `HNet.resolve` sends a pin name of the root to the leaf pin
it stands for.  The theorems hold for every depth, every branching, every schedule at every level. -/

variable {F : Type} [Field F] [DecidableEq F]

/-- **transparency of the executable hierarchy**: if the recursive solve of a well-formed hierarchy returns `c`, then `c` is —
between its pin names, each standing for the leaf pin it resolves to — a solution operator of the flattened circuit, whose
exposed pins are exactly the resolved names of `c` -/
theorem C02_hier_exec_sound (sched : List (St F) → Option (Nat × Nat)) (h : HNet F) (w : HNet.WFTree h)
    (c : CompD F) (hs : HNet.solveH sched h = .ok c) :
    ∃ T, h.flat.SolvedBy T ∧ h.flat.exposed = c.pins.map h.resolve ∧
      ∀ x ∈ c.pins, ∀ y ∈ c.pins, T (h.resolve x) (h.resolve y) = c.sem x y :=
  HNet.solveH_sound sched h (w.levelsOK sched) c hs

/-- … and it is *the* solution operator: whatever solves the flattened circuit (for instance the result of solving it as one
level, by C01) has, between the resolved pins, exactly the coefficients the hierarchical solve reports -/
theorem C02_hier_exec_unique (sched : List (St F) → Option (Nat × Nat)) (h : HNet F) (w : HNet.WFTree h)
    (c : CompD F) (hs : HNet.solveH sched h = .ok c) (hp : c.pins.Nodup)
    (T' : HNet.HPin → HNet.HPin → F) (hT' : h.flat.SolvedBy T') :
    ∀ x ∈ c.pins, ∀ y ∈ c.pins, T' (h.resolve x) (h.resolve y) = c.sem x y :=
  HNet.solveH_flat_operator sched h w c hs hp T' hT'

/-- the result does not depend on the schedules used inside the levels: two runs of the recursion with different merge orders
(at any level) that both return agree on every coefficient -/
theorem C02_hier_exec_schedule_independent (s₁ s₂ : List (St F) → Option (Nat × Nat)) (h : HNet F) (w : HNet.WFTree h)
    (c₁ c₂ : CompD F) (h₁ : HNet.solveH s₁ h = .ok c₁) (h₂ : HNet.solveH s₂ h = .ok c₂) (hp : c₂.pins.Nodup)
    (hpins : c₁.pins = c₂.pins) :
    ∀ x ∈ c₂.pins, ∀ y ∈ c₂.pins, c₁.sem x y = c₂.sem x y :=
  (HNet.solveH_unique s₂ s₁ w (HNet.solveH_pins s₂ h c₂ h₂ ▸ hp) h₂ h₁).2

/-- one level of the recursion is what the code does: solve the children, solve the level built from their results with the
same loop as a flat solve, hand up the exposed block under the exposed names -/
theorem C02_hier_level (sched : List (St F) → Option (Nat × Nat)) (cs : List (HNet F))
    (links : List (PinRef × PinRef)) (exposed : List (String × PinRef)) (c : CompD F)
    (hs : HNet.solveH sched (.node cs links exposed) = .ok c) :
    ∃ comps total, List.Forall₂ (fun h c => HNet.solveH sched h = .ok c) cs comps ∧
      (HNet.levelNet comps links exposed).solveWith sched = .ok total ∧
      c = (HNet.levelNet comps links exposed).extract total :=
  HNet.solveH_node_inv sched cs links exposed c hs

/-- `HNet.wfTreeB` (executable; evaluated by the driver on every hierarchy it solves and counted in the evidence as `hyp:WFTree`)
decides the syntactic well-formedness the theorems above assume, so on a hierarchy that passes it the recursion's result is the
operator of the flat circuit -/
theorem C02_hier_checked (sched : List (St F) → Option (Nat × Nat)) (h : HNet F) (c : CompD F) (hwf : h.wfTreeB = true)
    (hs : HNet.solveH sched h = .ok c) :
    (h.wfTreeB = true ↔ HNet.WFTree h) ∧
    ∃ T, h.flat.SolvedBy T ∧ h.flat.exposed = c.pins.map h.resolve ∧
      ∀ x ∈ c.pins, ∀ y ∈ c.pins, T (h.resolve x) (h.resolve y) = c.sem x y :=
  ⟨HNet.wfTreeB_iff h, C02_hier_exec_sound sched h ((HNet.wfTreeB_iff h).1 hwf) c hs⟩
