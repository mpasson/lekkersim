import LekkerVerif.Properties.C01
import LekkerVerif.Core.WFCheckSpec

/-! # C01 (continued) — the hypotheses are checked on every circuit the driver solves

`NetD.wfB`, `idxB`, `exposureB` (Core/WFCheck.lean) are executable and equivalent to `NetD.WF`, `IdxWF`, `ExposureOK`
(Core/WFCheckSpec.lean).  The driver evaluates them on every circuit it is asked to solve and the harness counts the outcomes
in the evidence (`hyp:elimination-theorems-apply` / `hyp:outside:…`), so each run states on how many of its generated circuits
the two theorems below applied as they stand. -/

open NetD Solve

variable {F : Type} [Field F] [DecidableEq F]

theorem C01_checkers_decide (net : NetD F) :
    (net.wfB = true ↔ net.WF) ∧ (net.idxB = true ↔ net.IdxWF) ∧ (net.exposureB = true ↔ net.ExposureOK) :=
  ⟨NetD.wfB_iff net, NetD.idxB_iff net, NetD.exposureB_iff net⟩

/-- on a circuit that passes the checks, whatever `solve` returns is the solution operator of the network equations, and with a
valid schedule the only possible failure is a singular inner system -/
theorem C01_checked (net : NetD F) (hwf : net.wfB = true) (hidx : net.idxB = true) (hex : net.exposureB = true)
    (hne : net.comps ≠ []) (sched) :
    (∀ total, net.solveWith sched = .ok total → net.SolvedBy total.sem) ∧
    (Solve.ValidSched sched → (∃ total, net.solveWith sched = .ok total) ∨ net.solveWith sched = .error .singular) :=
  ⟨fun total h => C01_solve_solves net ((NetD.wfB_iff net).1 hwf) ((NetD.exposureB_iff net).1 hex) sched total h,
   fun hv => C01_only_failure_is_singular net ((NetD.wfB_iff net).1 hwf) ((NetD.idxB_iff net).1 hidx) hne sched hv⟩

/-! non-vacuity: the two-component network `netNV` passes the checks, so the hypotheses of the definedness theorems can be met -/
example : netNV.IdxWF := (NetD.idxB_iff netNV).1 (by decide)
example : netNV.WF := (NetD.wfB_iff netNV).1 (by decide)
example : netNV.comps ≠ [] := List.cons_ne_nil _ _
