import LekkerVerif.Properties.C12
import LekkerVerif.Core.HierSplitSpec
import LekkerVerif.Core.WFCheckSpec

/-! # C12 (continued) — `split()` on the executable hierarchy: each part behaves like the original

`HNet.splitLevel` (Core/HierSplit.lean) is the function the driver runs for the op `hsplit`, compared with what the real
`split()` returns.  The theorems are about `HNet.solveH` of the original and of the parts, with any schedules; the children may
be sub-circuits of any depth. -/

variable {F : Type} [Field F] [DecidableEq F]

theorem C12_parts_wellformed (h : HNet F) (w : HNet.WFTree h) : ∀ sub ∈ HNet.splitLevel h, HNet.WFTree sub := by
  intro sub hsub
  cases h with
  | leaf c => exact List.mem_singleton.1 hsub ▸ w
  | node cs links exposed =>
    obtain ⟨g, _, rfl⟩ := List.mem_map.1 hsub
    exact w.subLevel g

/-- **each part behaves like the original**: a sub-solver returned by `split()` exposes names of the original and carries, between
every two of them, the coefficient the original carries -/
theorem C12_part_behaves_like_original (s s' : List (St F) → Option (Nat × Nat)) (h : HNet F) (w : HNet.WFTree h)
    (c : CompD F) (hs : HNet.solveH s h = .ok c) (sub : HNet F) (hsub : sub ∈ HNet.splitLevel h)
    (c' : CompD F) (hs' : HNet.solveH s' sub = .ok c') :
    (∀ x ∈ c'.pins, x ∈ c.pins) ∧ ∀ x ∈ c'.pins, ∀ y ∈ c'.pins, c'.sem x y = c.sem x y := by
  cases h with
  | leaf c0 =>
    obtain rfl := HNet.solveH_leaf_eq hs (List.mem_singleton.1 hsub ▸ hs')
    exact ⟨fun _ hx => hx, fun _ _ _ _ => rfl⟩
  | node cs links exposed =>
    obtain ⟨g, hg, rfl⟩ := List.mem_map.1 hsub
    exact HNet.subLevel_behaves_of_closed s s' cs links exposed w c hs g (HNet.groups_closed cs.length links g hg) c' hs'

/-- … and the original has no coefficient between names that belong to different parts (only the original needs to be solved) -/
theorem C12_no_coupling_across_parts (s : List (St F) → Option (Nat × Nat)) (cs : List (HNet F))
    (links : List (PinRef × PinRef)) (exposed : List (String × PinRef)) (w : HNet.WFTree (.node cs links exposed))
    (c : CompD F) (hs : HNet.solveH s (.node cs links exposed) = .ok c)
    (g : List Nat) (hg : g ∈ HNet.groups cs.length links) (g' : List Nat) (hg' : g' ∈ HNet.groups cs.length links) (hne : g ≠ g')
    (x : String) (hx : x ∈ HNet.pinNames (HNet.subLevel cs links exposed g))
    (y : String) (hy : y ∈ HNet.pinNames (HNet.subLevel cs links exposed g')) : c.sem x y = 0 := by
  rw [HNet.pinNames_subLevel] at hx hy
  obtain ⟨e, he, rfl⟩ := List.mem_map.1 hx
  obtain ⟨e', he', rfl⟩ := List.mem_map.1 hy
  obtain ⟨he0, hin⟩ := HNet.mem_filter_exp.1 he
  obtain ⟨he0', hin'⟩ := HNet.mem_filter_exp.1 he'
  -- the pin of `y` lies in `g'`, so not in `g`: the sets are disjoint
  have hout : e'.2.1 ∉ g := fun h =>
    hne ((HNet.groups_partition cs.length links e'.2.1 (w.wired.expOk e' he0').lt).2 g hg g' hg' h hin')
  exact (HNet.level_across_zero s cs links exposed w c hs g (HNet.groups_closed cs.length links g hg) e he0 e' he0'
    hin hout).1

/-- every child lies in exactly one part (that no link joins two parts is `HNet.groups_closed`) -/
theorem C12_parts_partition (n : Nat) (links : List (PinRef × PinRef)) (i : Nat) (hi : i < n) :
    (∃ g ∈ HNet.groups n links, i ∈ g) ∧
    ∀ g ∈ HNet.groups n links, ∀ g' ∈ HNet.groups n links, i ∈ g → i ∈ g' → g = g' :=
  HNet.groups_partition n links i hi

/-- a connected level is returned as it is -/
theorem C12_connected_level_unchanged {cs : List (HNet F)} {links : List (PinRef × PinRef)} {exposed : List (String × PinRef)}
    (w : HNet.WFTree (.node cs links exposed)) (g : List Nat) (hone : HNet.groups cs.length links = [g]) :
    HNet.splitLevel (.node cs links exposed) = [.node cs links exposed] := by
  show (HNet.groups cs.length links).map (HNet.subLevel cs links exposed) = _
  rw [hone, List.map_cons, List.map_nil, HNet.subLevel_full w g]
  intro i hi
  obtain ⟨g', hg', hin⟩ := (HNet.groups_partition cs.length links i hi).1
  rw [hone, List.mem_singleton] at hg'
  exact hg' ▸ hin

namespace HNet

/-- non-vacuity: the level of the sanity check in `Core/HierSplit.lean` (three two-ports, the first two chained) with the
other pin of the third two-port exposed as well (`y`) is well formed whatever the matrices, so the theorems above apply to it
and to its two sub-solvers -/
example (c1 c2 c3 : CompD F) (h1 : c1.pins = ["a", "b"]) (h2 : c2.pins = ["a", "b"]) (h3 : c3.pins = ["a", "b"]) :
    WFTree (.node [.leaf c1, .leaf c2, .leaf c3] [((0, "b"), (1, "a"))]
      [("in", (0, "a")), ("x", (2, "a")), ("out", (1, "b")), ("y", (2, "b"))]) := by
  rw [← wfTreeB_iff]
  simp only [wfTreeB, wfTreeAllB, List.map, pinNamesB, h1, h2, h3]
  decide

end HNet
