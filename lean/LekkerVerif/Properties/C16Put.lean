import LekkerVerif.Properties.C16
import LekkerVerif.Proofs.WiringPut

/-! # C16 (continued) — `put()` is validated and atomic

`Wiring.put` is `Model.put` / `Solver.put` with both pins given, as repaired in `/repo` (d2b7e60): the source pin must be a pin of
the placed object, the target must not be connected and must be a free pin of the solver; only then is the structure added and
the connection made.  It is part of the step function the driver runs, and the rejected puts of the C16 histories are compared
with it step by step. -/

namespace Wiring

/-- **a rejected put leaves the circuit exactly as it was**: for a consistent state and a freshly built object (not yet a
structure of the solver), a put either succeeds or changes nothing - the connection cannot fail after the structure was added -/
theorem C16_put_atomic (w : W) (inv : WInv w) (i s : Nat) (q : Pin) (o : SObj) (ho : getObj w i = some o)
    (hfresh : i ∉ w.structs) (hconn : o.conn = []) :
    (put w i s q).2 = .ok ∨ (put w i s q).1 = w :=
  Decidable.or_iff_not_imp_left.2 (put_rejected_unchanged w inv i s q o ho hfresh hconn)

/-- it is accepted exactly when the source pin belongs to the placed object and the target is an unconnected free pin -/
theorem C16_put_accepts_iff (w : W) (inv : WInv w) (i s : Nat) (q : Pin) (o : SObj) (ho : getObj w i = some o)
    (hfresh : i ∉ w.structs) (hconn : o.conn = []) :
    (put w i s q).2 = .ok ↔ (s ∈ o.pins ∧ q ∉ w.clist ∧ q ∈ w.free) :=
  put_accepts_iff w inv i s q o ho hfresh

/-- an accepted put is the add followed by the connect -/
theorem C16_put_is_add_then_connect (w : W) (i s : Nat) (q : Pin) (h : (put w i s q).2 = .ok) :
    (put w i s q).1 = (connect (addStruct w i).1 (i, s) q).1 ∧ (addStruct w i).2 = .ok := by
  rcases put_cases w i s q with h' | ⟨hok, he, _⟩
  · exact absurd h h'.2
  · exact ⟨by rw [he], hok⟩

/-- every put, accepted or rejected, keeps the tables consistent -/
theorem C16_put_inv (w : W) (inv : WInv w) (i s : Nat) (q : Pin) : WInv (put w i s q).1 :=
  put_inv w inv i s q

end Wiring
