import LekkerVerif.Proofs.KernelTie
import LekkerVerif.Core.RefineAdd
import LekkerVerif.Core.Batch
import LekkerVerif.Core.Defined

/-! # C18 — the star-product kernel is the exact elimination of the shared ports

All statements are about `Generated.add` / `Generated.intComplete`, i.e. the definitions the
translator regenerates from `/repo/lekkersim/scattering.py` on every run, over an arbitrary
field and arbitrary finite index types (so every dimension triple, zeros included).  Those from
`C18_guard` on are about the executable twin `SMat.add?` that the correspondence run compares with numpy. -/

open Matrix

variable {F : Type*} [Field F]
variable {n k l m : Type*} [Fintype n] [Fintype k] [Fintype l] [Fintype m]
  [DecidableEq n] [DecidableEq k] [DecidableEq l] [DecidableEq m]

/-- every solution of the pair's network equations has the outputs the star product predicts -/
theorem C18_sound (A : SM F n k) (B : SM F k m) (h : IsUnit (1 - A.S12 * B.S21))
    (u : n → F) (d : m → F) (rA : n → F) (rB : m → F) (f g : k → F) (he : PairEq A B u d rA rB f g) :
    rA = (Generated.add A B).S21 *ᵥ u + (Generated.add A B).S22 *ᵥ d ∧
    rB = (Generated.add A B).S11 *ᵥ u + (Generated.add A B).S12 *ᵥ d := by
  rw [Generated.add_eq]; exact star_sound A B h u d rA rB f g he

/-- for every excitation the pair equations have a solution (with exactly those outputs) -/
theorem C18_complete (A : SM F n k) (B : SM F k m) (h : IsUnit (1 - A.S12 * B.S21)) (u : n → F) (d : m → F) :
    ∃ f g, PairEq A B u d ((Generated.add A B).S21 *ᵥ u + (Generated.add A B).S22 *ᵥ d)
      ((Generated.add A B).S11 *ᵥ u + (Generated.add A B).S12 *ᵥ d) f g := by
  rw [Generated.add_eq]; exact star_complete A B h u d

/-- associativity, whenever the four inner systems are invertible -/
theorem C18_assoc (A : SM F n k) (B : SM F k l) (C : SM F l m)
    (hAB : IsUnit (1 - A.S12 * B.S21)) (hABC : IsUnit (1 - (Generated.add A B).S12 * C.S21))
    (hBC : IsUnit (1 - B.S12 * C.S21)) (hA_BC : IsUnit (1 - A.S12 * (Generated.add B C).S21)) :
    Generated.add (Generated.add A B) C = Generated.add A (Generated.add B C) := by
  simp only [Generated.add_eq] at *
  exact star_assoc A B C hAB hABC hBC hA_BC

/-- the reflectionless through-connection is the neutral element -/
theorem C18_identity (A : SM F n k) :
    Generated.add A (SM.through k) = A ∧ Generated.add (SM.through n) A = A := by
  simp only [Generated.add_eq]
  exact ⟨star_through_right A, star_through_left A⟩

/-- the interface amplitudes reported by `int_complete` are the (unique) interface waves of every
solution of the pair equations — in particular they satisfy both components' equations -/
theorem C18_interface (A : SM F n k) (B : SM F k m) (h : IsUnit (1 - A.S12 * B.S21))
    (u : n → F) (d : m → F) (rA : n → F) (rB : m → F) (f g : k → F) (he : PairEq A B u d rA rB f g) :
    Generated.intComplete A B u d = (f, g) := by
  rw [Generated.intComplete_eq]
  obtain ⟨h1, h2⟩ := star_waves A B h u d rA rB f g he
  simp only [SM.waves, ← h1, ← h2]

/-- … and such a solution exists, so the reported pair satisfies both components' equations -/
theorem C18_interface_satisfies (A : SM F n k) (B : SM F k m) (h : IsUnit (1 - A.S12 * B.S21))
    (u : n → F) (d : m → F) :
    (Generated.intComplete A B u d).1 = A.S11 *ᵥ u + A.S12 *ᵥ (Generated.intComplete A B u d).2 ∧
    (Generated.intComplete A B u d).2 = B.S21 *ᵥ (Generated.intComplete A B u d).1 + B.S22 *ᵥ d := by
  obtain ⟨f, g, he⟩ := star_complete A B h u d
  rw [C18_interface A B h u d _ _ f g he]
  exact ⟨he.2.1, he.2.2.1⟩

/-- the dimension guard and the declared result shape are present in the source -/
theorem C18_guard_in_source : Generated.addGuardPresent = true ∧ Generated.addResultDimsOk = true := by
  decide

/-- executable twin: mismatched intermediate dimensions are rejected -/
theorem C18_guard {K : Type} [Scalar K] (A B : SMat K) (h : A.M ≠ B.N) : A.add? B = .error .dimension :=
  (SMat.add?_dimension_iff A B).2 h

/-- executable twin refines the regenerated kernel: whenever `add?` returns, the guard held, the
inner system is a unit and the result *is* `Generated.add` of the operands -/
theorem C18_exec_refines {K : Type} [Field K] [DecidableEq K] (A B C : SMat K) (hA : A.WF) (hB : B.WF)
    (h : A.add? B = .ok C) :
    A.M = B.N ∧ C.WF ∧ IsUnit (1 - (A.toSM A.N A.M).S12 * (B.toSM A.M B.M).S21) ∧
    C.toSM A.N B.M = Generated.add (A.toSM A.N A.M) (B.toSM A.M B.M) := by
  obtain ⟨h1, _, _, h4, h5, h6⟩ := SMat.add?_spec A B C _ _ _ hA hB rfl rfl rfl h
  exact ⟨h1.symm, h4, h5, by rw [Generated.add_eq]; exact h6⟩

/-- **definedness** of the executable twin: on well-formed operands `add?` returns a result exactly when the
dimension guard holds and the inner system is invertible (Gauss–Jordan finds the inverse whenever it exists) -/
theorem C18_defined_iff {K : Type} [Field K] [DecidableEq K] (A B : SMat K) (hA : A.WF) (hB : B.WF) :
    (∃ C, A.add? B = .ok C) ↔
      (A.M = B.N ∧ IsUnit (1 - (A.toSM A.N A.M).S12 * (B.toSM A.M B.M).S21)) :=
  SMat.add?_ok_iff A B hA hB

/-- the two ways the kernel can fail, and exactly when: `dimension` iff the guard is violated, `singular` iff the
guard holds and the inner system has no inverse; there is no third failure -/
theorem C18_failure_cases {K : Type} [Field K] [DecidableEq K] (A B : SMat K) (hA : A.WF) (hB : B.WF) :
    (A.add? B = .error .dimension ↔ A.M ≠ B.N) ∧
    (A.add? B = .error .singular ↔
      (A.M = B.N ∧ ¬ IsUnit (1 - (A.toSM A.N A.M).S12 * (B.toSM A.M B.M).S21))) ∧
    (∀ e, A.add? B = .error e → e = .dimension ∨ e = .singular) :=
  ⟨SMat.add?_dimension_iff A B, SMat.add?_singular_iff A B hA hB, fun e h => SMat.add?_error_cases A B e h⟩

/-- a batched join equals the join of each slice (the model of numpy's leading sweep axis) -/
theorem C18_batch {K : Type} [Scalar K] (As Bs Cs : List (SMat K)) (hl : As.length = Bs.length)
    (h : SMat.addBatch As Bs = .ok Cs) :
    Cs.length = As.length ∧ ∀ i (hi : i < As.length) (hj : i < Bs.length) (hk : i < Cs.length),
      As[i].add? Bs[i] = .ok Cs[i] :=
  SMat.addBatch_spec As Bs Cs hl h

/-! non-vacuity: the invertibility hypothesis holds of two through-connections (`S12 = 0`) -/
example : IsUnit (1 - (SM.through (F := ℚ) (Fin 2)).S12 * (SM.through (F := ℚ) (Fin 2)).S21) := by
  simp [SM.through]
